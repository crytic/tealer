import TealerModel.Syntax
import TealerModel.Cfg
import TealerModel.Function
import TealerModel.OSet
import TealerModel.Ast
import TealerModel.Dom
import TealerModel.Generic
import TealerModel.Detect
import TealerModel.Group
import TealerModel.Regex
import TealerModel.NumList
import TealerModel.PyView
import TealerModel.Proto
import TealerModel.Avm
import TealerModel.Spec.OpTable
import TealerModel.Spec.CostTable
import TealerModel.Generated.Asserted
import TealerModel.Generated.Consts
import TealerModel.Generated.Flow
import TealerModel.Generated.GroupLoop
import TealerModel.Generated.Leaf
import TealerModel.Generated.Matchers
import TealerModel.Generated.OpTable
import TealerModel.Generated.ParseTable
import TealerModel.Generated.Search
import TealerModel.Generated.StackAst
import TealerModel.Generated.Worklist
import TealerModel.Lemmas.Addr
import TealerModel.Lemmas.Asserted
import TealerModel.Lemmas.BlockConstraint
import TealerModel.Lemmas.BlockEdge
import TealerModel.Lemmas.BlockShape
import TealerModel.Lemmas.BlockWalk
import TealerModel.Lemmas.Cfg
import TealerModel.Lemmas.CfgWF
import TealerModel.Lemmas.Confluence
import TealerModel.Lemmas.Dfs
import TealerModel.Lemmas.EvalRun
import TealerModel.Lemmas.Exact
import TealerModel.Lemmas.ExceptL
import TealerModel.Lemmas.Fee
import TealerModel.Lemmas.Flow
import TealerModel.Lemmas.IntSet
import TealerModel.Lemmas.Mirror
import TealerModel.Lemmas.NumList
import TealerModel.Lemmas.OperandValues
import TealerModel.Lemmas.Padding
import TealerModel.Lemmas.ParseSubs
import TealerModel.Lemmas.PyLoops
import TealerModel.Lemmas.Reach
import TealerModel.Lemmas.RunValues
import TealerModel.Lemmas.Solver
import TealerModel.Lemmas.StackEffect
import TealerModel.Lemmas.StepEdge
import TealerModel.Lemmas.StrBytes
import TealerModel.Lemmas.Worklist
import TealerModel.Props.C01
import TealerModel.Props.C02
import TealerModel.Props.C03
import TealerModel.Props.C04
import TealerModel.Props.C05
import TealerModel.Props.C06
import TealerModel.Props.C07
import TealerModel.Props.C08
import TealerModel.Props.C09
import TealerModel.Props.C10
import TealerModel.Props.C11
import TealerModel.Props.C12
import TealerModel.Props.C13
import TealerModel.Props.C14
import TealerModel.Props.C15
import TealerModel.Props.C16
import TealerModel.Props.C17
import TealerModel.Props.C18
import TealerModel.Props.C19
import TealerModel.Props.C20
import TealerModel.Props.Common
import TealerModel.Props.Tie
import TealerModel.Props.TieAsserted
import TealerModel.Props.TieFlow
import TealerModel.Props.TieGroup
import TealerModel.Props.TieMatchers
import TealerModel.Props.TieSearch
import TealerModel.Props.TieStackAst
import TealerModel.Props.TieWorklist
