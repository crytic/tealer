/-
  Strings as lists of their UTF-8 bytes.  The kernel evaluates a test on string literals by decoding them character by character
  through the validity proofs of `String`; on the byte lists the same test costs it a fraction.  The table theorems of C11 and
  C16 that compare or scan many sample lines run their tests in this form.
-/
namespace Tealer

def bytesOf (s : String) : List Nat := s.toByteArray.data.toList.map (·.toNat)

theorem bytesOf_beq (s t : String) : (bytesOf s == bytesOf t) = (s == t) := by
  rw [Bool.eq_iff_iff, beq_iff_eq, beq_iff_eq]
  refine ⟨fun h => ?_, fun h => h ▸ rfl⟩
  have := (List.map_inj_right fun a b => UInt8.toNat_inj.mp).mp h
  exact String.toByteArray_inj.mp (ByteArray.ext (Array.ext' this))

/-- a prefix of the characters is a prefix of the bytes (the converse, that UTF-8 is prefix-free, is not needed) -/
theorem bytesOf_prefix {s pat : String} (h : s.startsWith pat = true) : (bytesOf pat).isPrefixOf (bytesOf s) = true := by
  obtain ⟨t, ht⟩ := String.startsWith_string_iff.mp h
  have : s = pat ++ String.ofList t := String.toList_inj.mp (by simp [ht])
  rw [this, List.isPrefixOf_iff_prefix]
  exact ⟨bytesOf (String.ofList t), by simp [bytesOf, String.toByteArray_append, ByteArray.data_append]⟩

end Tealer
