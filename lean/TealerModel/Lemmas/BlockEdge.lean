/-
  Block-level soundness of the edges of the fourth pass: after it, every successor (fall-through or jump) of the last
  instruction of a block leads to a block that is in the successor list of that block.
-/
import TealerModel.Lemmas.CfgWF
namespace Tealer.BlockEdge

/-- the fourth pass: for every block, every successor of its exit instruction leads into its successor list -/
theorem fourthPass_post (blocks : List (List Nat)) (nexts : List (List Nat)) (bs bs' : List RawBlock)
    (hr : fourthPass blocks nexts bs = .ok bs') :
    bs'.length = bs.length ∧ (∀ x : Nat, (bs'[x]!).ins = (bs[x]!).ins) ∧
    (∀ x, x < bs.length → ∀ y ∈ (bs[x]!).next, y ∈ (bs'[x]!).next) ∧
    (∀ id, id < bs.length → ∀ ex, (bs[id]!).ins.getLast? = some ex → ∀ t ∈ nexts[ex]!, ∀ nb,
      blockOfIns blocks t = .ok nb → nb ∈ (bs'[id]!).next) := by
  have ⟨hE, hpost⟩ := CfgWF.fourthPass_ext hr
  exact ⟨hE.length, fun x => (hE.keeps x).1, fun x _ => (hE.keeps x).2, hpost⟩

theorem graphOf_post {ins : List Ins} {nexts : List (List Nat)} {bs : List RawBlock} (hg : CfgWF.graphOf ins nexts = .ok bs)
    {B ex t nb : Nat} (hB : B < (createBB ins nexts).1.length) (hex : ((createBB ins nexts).1[B]!).getLast? = some ex)
    (ht : t ∈ nexts[ex]!) (hnb : blockOfIns (createBB ins nexts).1 t = .ok nb) : nb ∈ (bs[B]!).next := by
  have hE := CfgWF.dflt_ext ins nexts
  refine (CfgWF.fourthPass_ext hg).2 B (by rw [hE.length, List.length_map]; exact hB) ex ?_ t ht nb hnb
  -- the default edges leave the blocks' instruction lists as the third pass made them
  rw [(hE.keeps B).1]
  simpa [getElem!_pos, hB] using hex

end Tealer.BlockEdge
