/-
  The path search of detectors/utils.py (model: `searchPaths`): every returned path extends the current path by a
  matched walk of the global graph that ends in a leaf and contains no validated block and no block twice
  within one subroutine activation (`Walk`); no path is returned twice; every such walk within the depth budget is returned.
-/
import TealerModel.Detect
namespace Tealer.Dfs

theorem collect_eq_some {f : Nat → Option (List (List Nat))} {nx : List Nat} {ps : List (List Nat)}
    (h : collect f nx = some ps) : ∃ F : Nat → List (List Nat), (∀ nb ∈ nx, f nb = some (F nb)) ∧ ps = nx.flatMap F := by
  refine ⟨fun nb => (f nb).getD [], ?_⟩
  -- no successor left (1), a successor whose search returned (2), one whose search raised (3)
  fun_induction collect f nx generalizing ps with
  | case1 => cases h; exact ⟨nofun, rfl⟩
  | case2 nb rest r rs hrs hr ih =>
    cases h
    obtain ⟨h1, rfl⟩ := ih hrs
    exact ⟨List.forall_mem_cons.mpr ⟨by simp only [hr, Option.getD_some], h1⟩,
      by simp only [List.flatMap_cons, hr, Option.getD_some]⟩
  | case3 => cases h

/-- `Walk g cs exe b rest`: from `b` with call stack `cs` and per-activation executed lists `exe`, `rest` follows
    matched steps of the global graph to a leaf (a callsub block steps to its callee's entry and pushes a frame; a
    retsub block steps to the return point of the call site on top of the stack and pops it; any other block
    steps to one of its successors); no block on it is validated; no block is entered that the current
    activation already executed; no subroutine is entered that is already on the call stack -/
inductive Walk (g : DGraph) : List Frame → List (List Nat) → Nat → List Nat → Prop
  | leaf (cs exe b) : ¬ b ∈ exe.getLast?.getD [] → g.validated b = false → g.isLeaf b = true → Walk g cs exe b []
  | call (cs exe b s e rest) : ¬ b ∈ exe.getLast?.getD [] → g.validated b = false → g.isLeaf b = false →
      g.isCallsub b = true → g.calledSub b = some s → g.subEntry s = some e → ¬ s ∈ cs.map Prod.snd →
      Walk g (cs ++ [(some b, s)]) (exe.dropLast ++ [exe.getLast?.getD [] ++ [b]] ++ [[]]) e rest →
      Walk g cs exe b (e :: rest)
  | ret (cs exe b cb s rp rest) : ¬ b ∈ exe.getLast?.getD [] → g.validated b = false → g.isLeaf b = false →
      g.isCallsub b = false → g.isRetsub b = true → cs.getLast? = some (some cb, s) → g.retPoint cb = some rp →
      Walk g cs.dropLast (exe.dropLast ++ [exe.getLast?.getD [] ++ [b]]).dropLast rp rest →
      Walk g cs exe b (rp :: rest)
  | plain (cs exe b b' rest) : ¬ b ∈ exe.getLast?.getD [] → g.validated b = false → g.isLeaf b = false →
      g.isCallsub b = false → g.isRetsub b = false → b' ∈ g.next b →
      Walk g cs (exe.dropLast ++ [exe.getLast?.getD [] ++ [b]]) b' rest → Walk g cs exe b (b' :: rest)

theorem searchPaths_spec (g : DGraph) (fuel bb : Nat) (path : List Nat) (cs : List Frame) (exe : List (List Nat)) :
    ∀ ps, searchPaths g fuel bb path cs exe = some ps →
      (∀ π ∈ ps, ∃ rest, π = path ++ bb :: rest ∧ Walk g cs exe bb rest) ∧ ((∀ b, (g.next b).Nodup) → ps.Nodup) := by
  fun_induction searchPaths g fuel bb path cs exe with
  -- no result: out of budget (1); the Python raises on a callsub block without a subroutine name (5) or whose subroutine
  -- has no entry (7), and on a retsub block with no call site on top of the stack (11)
  | case1 | case5 | case7 | case11 => nofun
  -- no path reported: the block was already executed in this activation (2) or is validated (3), the callee is already on
  -- the call stack (6), the call site has no return point (10)
  | case2 | case3 | case6 | case10 =>
    rintro _ ⟨⟩
    exact ⟨nofun, fun _ => .nil⟩
  | case4 fuel bb path cs exe hloop hval hleaf =>  -- a leaf: the path is reported
    rintro _ ⟨⟩
    refine ⟨?_, fun _ => List.pairwise_singleton _ _⟩
    simp only [List.mem_singleton, forall_eq]
    exact ⟨[], rfl, .leaf _ _ _ (mt List.contains_iff_mem.mpr hloop) (eq_false_of_ne_true hval) hleaf⟩
  | case8 fuel bb path cs exe hloop hval hleaf exe1 hcall s hs hrec e he ih =>  -- callsub: on at the callee's entry
    intro ps h
    refine ⟨fun π hπ => ?_, (ih ps h).2⟩
    obtain ⟨rest, rfl, hw⟩ := (ih ps h).1 π hπ
    exact ⟨e :: rest, List.append_assoc .., .call _ _ _ s e _ (mt List.contains_iff_mem.mpr hloop)
      (eq_false_of_ne_true hval) (eq_false_of_ne_true hleaf) hcall hs he (mt List.contains_iff_mem.mpr hrec) hw⟩
  | case9 fuel bb path cs exe hloop hval hleaf exe1 hcall hret cb s hcs rp hrp ih =>  -- retsub: on at the return point
    intro ps h
    refine ⟨fun π hπ => ?_, (ih ps h).2⟩
    obtain ⟨rest, rfl, hw⟩ := (ih ps h).1 π hπ
    exact ⟨rp :: rest, List.append_assoc .., .ret _ _ _ cb s rp _ (mt List.contains_iff_mem.mpr hloop)
      (eq_false_of_ne_true hval) (eq_false_of_ne_true hleaf) (eq_false_of_ne_true hcall) hret hcs hrp hw⟩
  | case12 fuel bb path cs exe hloop hval hleaf exe1 hcall hret ih =>  -- any other block: one search per successor
    intro ps h
    obtain ⟨F, hF, rfl⟩ := collect_eq_some h
    have hv : ∀ nb ∈ g.next bb, ∀ π ∈ F nb, ∃ rest, π = path ++ bb :: nb :: rest ∧ Walk g cs exe bb (nb :: rest) := by
      intro nb hnb π hπ
      obtain ⟨rest, rfl, hw⟩ := (ih nb _ (hF nb hnb)).1 π hπ
      exact ⟨rest, List.append_assoc .., .plain _ _ _ nb _ (mt List.contains_iff_mem.mpr hloop)
        (eq_false_of_ne_true hval) (eq_false_of_ne_true hleaf) (eq_false_of_ne_true hcall) (eq_false_of_ne_true hret) hnb hw⟩
    constructor
    · intro π hπ
      obtain ⟨nb, hnb, hπ⟩ := List.mem_flatMap.mp hπ
      obtain ⟨rest, e, hw⟩ := hv nb hnb π hπ
      exact ⟨nb :: rest, e, hw⟩
    · -- paths found through different successors differ right after `bb`
      intro hg
      refine List.pairwise_flatMap.mpr ⟨fun nb hnb => (ih nb _ (hF nb hnb)).2 hg, (hg bb).imp_of_mem ?_⟩
      intro a b ha hb hab x hx y hy hxy
      obtain ⟨_, rfl, _⟩ := hv a ha x hx
      obtain ⟨_, e, _⟩ := hv b hb y hy
      exact hab (List.cons.inj (List.cons.inj (List.append_cancel_left (hxy ▸ e))).2).1

theorem searchPaths_valid (g : DGraph) : ∀ fuel bb path cs exe ps, searchPaths g fuel bb path cs exe = some ps →
    ∀ π ∈ ps, ∃ rest, π = path ++ bb :: rest ∧ Walk g cs exe bb rest :=
  fun fuel bb path cs exe ps h => (searchPaths_spec g fuel bb path cs exe ps h).1

/-- no path is reported twice: when the successor lists of the graph have no duplicates (the fourth pass never adds an
    edge twice), the list of paths the search returns has no duplicates -/
theorem searchPaths_nodup (g : DGraph) (hg : ∀ b, (g.next b).Nodup) :
    ∀ fuel bb path cs exe ps, searchPaths g fuel bb path cs exe = some ps → ps.Nodup :=
  fun fuel bb path cs exe ps h => (searchPaths_spec g fuel bb path cs exe ps h).2 hg

theorem walk_unvalidated {g : DGraph} {cs exe b rest} (h : Walk g cs exe b rest) : ∀ x ∈ b :: rest, g.validated x = false := by
  induction h with
  | leaf _ _ _ _ hv _ => exact List.forall_mem_cons.mpr ⟨hv, nofun⟩
  | _ => exact List.forall_mem_cons.mpr ⟨‹g.validated _ = false›, ‹_›⟩

theorem walk_ends_in_leaf {g : DGraph} {cs exe b rest} (h : Walk g cs exe b rest) :
    g.isLeaf ((b :: rest).getLast (by simp)) = true := by
  induction h with
  | leaf cs exe b _ _ hl => simpa using hl
  | _ => simpa [List.getLast_cons] using ‹g.isLeaf (List.getLast _ _) = true›

/-- completeness of the search: every matched walk to a leaf that avoids validated blocks and respects the loop /
    recursion cuts is reported (when the search does not raise and has enough depth budget) -/
theorem searchPaths_complete (g : DGraph) : ∀ cs exe bb rest, Walk g cs exe bb rest →
    ∀ fuel path ps, rest.length < fuel → searchPaths g fuel bb path cs exe = some ps →
      (path ++ bb :: rest) ∈ ps := by
  intro cs exe bb rest hw
  -- in every case the budget is positive, and the facts the step carries decide the guards of the unfolded search
  induction hw with (rintro (_ | n) path ps hf h; (· cases hf))
  | leaf cs exe b hloop hval hleaf =>
    simp only [searchPaths, List.contains_iff_mem, hloop, hval, hleaf, Bool.false_eq_true, ↓reduceIte, Option.some.injEq] at h
    exact h ▸ List.mem_singleton.mpr rfl
  | call cs exe b s e rest hloop hval hleaf hcall hs he hrec hw ih =>
    simp only [searchPaths, List.contains_iff_mem, hloop, hval, hleaf, hcall, hs, he, hrec, Bool.false_eq_true, ↓reduceIte] at h
    rw [List.append_cons]
    exact ih n _ ps (Nat.lt_of_succ_lt_succ hf) h
  | ret cs exe b cb s rp rest hloop hval hleaf hcall hret hcs hrp hw ih =>
    simp only [searchPaths, List.contains_iff_mem, hloop, hval, hleaf, hcall, hret, hcs, hrp, Bool.false_eq_true, ↓reduceIte] at h
    rw [List.append_cons]
    exact ih n _ ps (Nat.lt_of_succ_lt_succ hf) h
  | plain cs exe b b' rest hloop hval hleaf hcall hret hnb hw ih =>
    simp only [searchPaths, List.contains_iff_mem, hloop, hval, hleaf, hcall, hret, Bool.false_eq_true, ↓reduceIte] at h
    obtain ⟨F, hF, rfl⟩ := collect_eq_some h
    rw [List.append_cons]
    exact List.mem_flatMap.mpr ⟨b', hnb, ih n _ _ (Nat.lt_of_succ_lt_succ hf) (hF b' hnb)⟩

end Tealer.Dfs
