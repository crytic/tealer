/-
  Lemmas about the set-valued domains (model of int_fields.py and the set algebra of txn_types.py).
-/
import TealerModel.Detect
namespace Tealer.IntSet

def gamma (s : NatSet) (v : Nat) : Prop := v ∈ s

theorem union_exact (a b : NatSet) (v : Nat) : gamma (OSet.union a b) v ↔ gamma a v ∨ gamma b v :=
  OSet.mem_union v a b

theorem inter_exact (a b : NatSet) (v : Nat) : gamma (OSet.inter a b) v ↔ gamma a v ∧ gamma b v :=
  OSet.mem_inter v a b

theorem null_empty (v : Nat) : ¬ gamma ([] : NatSet) v := List.not_mem_nil

theorem mem_sizesU (v : Nat) : v ∈ sizesU ↔ 1 ≤ v ∧ v ≤ 16 := by
  simp only [sizesU, MAX_GROUP_SIZE, List.mem_map, List.mem_range]
  exact ⟨fun ⟨a, ha, e⟩ => e ▸ ⟨Nat.le_add_left 1 a, ha⟩,
    fun ⟨h1, h2⟩ => ⟨v - 1, Nat.sub_one_lt_of_le h1 h2, Nat.sub_add_cancel h1⟩⟩

theorem mem_indicesU (v : Nat) : v ∈ indicesU ↔ v < 16 := by
  simp [indicesU, MAX_GROUP_SIZE]

/-- `_get_asserted_int_values` (field as first operand): the listed values are exactly those of the
    universe that satisfy the comparison, for every constant `n` and every universe `U` -/
theorem assertedIntValues_spec (c : Cmp) (n : Nat) (U : NatSet) (v : Nat) (hv : v ∈ U) :
    v ∈ assertedIntValues c n U ↔ c.eval v n = true := by
  cases c <;> simp [assertedIntValues, Cmp.eval, hv]

theorem asserted_true_iff (c : Cmp) (n : Nat) (U : NatSet) (v : Nat) (hv : v ∈ U) :
    v ∈ OSet.ofList (assertedIntValues c n U) ↔ c.eval v n = true := by
  rw [OSet.mem_ofList]; exact assertedIntValues_spec c n U v hv

theorem asserted_false_iff (c : Cmp) (n : Nat) (U : NatSet) (v : Nat) (hv : v ∈ U) :
    v ∈ OSet.diff U (OSet.ofList (assertedIntValues c n U)) ↔ c.eval v n = false := by
  rw [OSet.mem_diff, asserted_true_iff c n U v hv]
  simp [hv]

/-- for every operator but `==` the listed values come from `U` (`==` lists `n` whether or not it is in `U`) -/
theorem asserted_subset (c : Cmp) (n : Nat) (U : NatSet) (v : Nat) (hc : c ≠ .eq)
    (h : v ∈ assertedIntValues c n U) : v ∈ U := by
  cases c with
  | eq => exact absurd rfl hc
  | _ => exact (List.mem_filter.mp h).1

theorem lt_foldl_max (i : Nat) (l : List Nat) (init : Nat) : i < l.foldl max init ↔ i < init ∨ ∃ s ∈ l, i < s := by
  induction l generalizing init with
  | nil => simp
  | cons x xs ih =>
    -- on `Nat`, `i < m` is `i + 1 ≤ m`
    have : i < max init x ↔ i < init ∨ i < x := Std.le_max (a := i + 1)
    rw [List.foldl_cons, ih, this, or_assoc]
    simp only [List.mem_cons, exists_eq_or_imp]

theorem mem_storeIndices (sizes indices : NatSet) (i : Nat) :
    i ∈ storeIndices sizes indices ↔ i ∈ indices ∧ ∃ s ∈ sizes, i < s := by
  simp only [storeIndices, List.mem_filter, decide_eq_true_eq, lt_foldl_max, Nat.not_lt_zero, false_or]

/-- GroupIndices._store_results: an index is never listed without a larger size -/
theorem storeIndices_coupling (sizes indices : NatSet) (i : Nat) (h : i ∈ storeIndices sizes indices) :
    ∃ s ∈ sizes, i < s := ((mem_storeIndices sizes indices i).mp h).2

theorem storeIndices_subset (sizes indices : NatSet) (i : Nat) (h : i ∈ storeIndices sizes indices) :
    i ∈ indices := ((mem_storeIndices sizes indices i).mp h).1

theorem storeIndices_sound (sizes indices : NatSet) (size idx : Nat) (hs : size ∈ sizes) (hi : idx ∈ indices)
    (hlt : idx < size) : idx ∈ storeIndices sizes indices :=
  (mem_storeIndices sizes indices idx).mpr ⟨hi, size, hs, hlt⟩

end Tealer.IntSet
