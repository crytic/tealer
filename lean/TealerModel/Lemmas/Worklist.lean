/-
  The `while worklist:` loop of forward_analyis / backward_analysis (model: `worklistRun`):
  when it stops, every block satisfies its equation.
-/
import TealerModel.Generic
namespace Tealer.Worklist

variable {V : Type}

theorem getMap_cons (x : Nat × V) (xs : List (Nat × V)) (k : Nat) (dflt : V) :
    getMap (x :: xs) k dflt = if x.1 = k then x.2 else getMap xs k dflt := by
  unfold getMap
  rw [List.find?_cons]
  cases h : x.1 == k
  · exact (if_neg (ne_of_beq_false h)).symm
  · exact (if_pos (eq_of_beq h)).symm

theorem getMap_nil (k : Nat) (dflt : V) : getMap ([] : List (Nat × V)) k dflt = dflt := rfl

theorem getMap_replace (m : List (Nat × V)) (k k' : Nat) (v dflt : V) :
    getMap (m.map fun (k'', v') => if k'' == k then (k'', v) else (k'', v')) k' dflt =
      if k' = k then (if m.any (·.1 == k) then v else dflt) else getMap m k' dflt := by
  induction m with
  | nil => simp [getMap_nil]
  | cons x xs ih =>
    rw [List.map_cons, List.any_cons, getMap_cons, getMap_cons, ih]
    -- left: the nested `if`s, by cases on `x.1 = k` and `k' = k`
    grind

theorem getMap_append_absent (m : List (Nat × V)) (k k' : Nat) (v dflt : V)
    (habs : m.any (·.1 == k) = false) :
    getMap (m ++ [(k, v)]) k' dflt = if k' = k then v else getMap m k' dflt := by
  induction m with
  | nil => simp [getMap_cons, getMap_nil, eq_comm]
  | cons x xs ih =>
    simp only [List.any_cons, Bool.or_eq_false_iff, beq_eq_false_iff_ne] at habs
    rw [List.cons_append, getMap_cons, getMap_cons, ih habs.2]
    by_cases hk : k' = k
    · subst hk; simp [habs.1]
    · simp [hk]

theorem getMap_updMap (m : List (Nat × V)) (k k' : Nat) (v dflt : V) :
    getMap (updMap m k v) k' dflt = if k' = k then v else getMap m k' dflt := by
  unfold updMap
  split
  · rename_i hany
    rw [getMap_replace, if_pos hany]
  · rename_i hany
    exact getMap_append_absent m k k' v dflt (Bool.eq_false_iff.mpr hany)

theorem getMap_map_keys (keys : List Nat) (f : Nat → V) (k : Nat) (dflt : V) :
    getMap (keys.map fun k => (k, f k)) k dflt = if k ∈ keys then f k else dflt := by
  induction keys with
  | nil => rfl
  | cons a as ih =>
    rw [List.map_cons, getMap_cons, ih]
    by_cases h : a = k
    · simp [h]
    · simp [h, Ne.symm h]

theorem mem_requeue (rest ds : List Nat) (x : Nat) :
    x ∈ ds.foldl (fun wl d => if wl.contains d then wl else wl ++ [d]) rest ↔ x ∈ rest ∨ x ∈ ds := by
  induction ds generalizing rest with
  | nil => simp
  | cons d ds ih =>
    rw [List.foldl_cons, ih, List.mem_cons]
    split
    · rename_i hc
      have hd : d ∈ rest := List.contains_iff_mem.mp hc
      constructor
      · exact Or.imp_right Or.inr
      · rintro (h | rfl | h)
        · exact .inl h
        · exact .inl hd
        · exact .inr h
    · rw [List.mem_append, List.mem_singleton, or_assoc]

variable [DecidableEq V]

/-- the loop rule: a property `I` of (values, worklist) that survives both kinds of step — the head's value is
    unchanged and it is dropped; the head's value is replaced and its dependents are queued behind the rest — holds of
    the result with the empty worklist.  Every other fact about `worklistRun` is an instance. -/
theorem worklistRun_induct (F : List (Nat × V) → Nat → V) (deps : Nat → List Nat) (dflt : V)
    (I : List (Nat × V) → List Nat → Prop)
    (hkeep : ∀ cur b rest, I cur (b :: rest) → F cur b = getMap cur b dflt → I cur rest)
    (hupd : ∀ cur b rest wl, I cur (b :: rest) → F cur b ≠ getMap cur b dflt → (∀ x, x ∈ wl ↔ x ∈ rest ∨ x ∈ deps b) →
      I (updMap cur b (F cur b)) wl) :
    ∀ (fuel : Nat) (cur : List (Nat × V)) (wl : List Nat), I cur wl →
      ∀ r, worklistRun F deps dflt fuel cur wl = some r → I r [] := by
  intro fuel cur wl h
  -- out of fuel (1), empty worklist (2), head unchanged (3), head replaced (4)
  fun_induction worklistRun F deps dflt fuel cur wl with
  | case1 => nofun
  | case2 => rintro _ ⟨⟩; exact h
  | case3 fuel cur b rest v heq ih => exact ih (hkeep cur b rest h heq)
  | case4 fuel cur b rest v hne wl ih => exact ih (hupd cur b rest _ h hne (mem_requeue rest (deps b)))

/-- a property of the single values that one application of `F` preserves is preserved by the loop; only blocks of a
    set `P` closed under `deps` are ever recomputed when the worklist starts inside `P` -/
theorem worklistRun_pointwise (P : Nat → Prop) (Q : Nat → V → Prop) {F : List (Nat × V) → Nat → V}
    {deps : Nat → List Nat} {dflt : V} (hdeps : ∀ b, P b → ∀ d ∈ deps b, P d)
    (hF : ∀ cur b, P b → (∀ k, Q k (getMap cur k dflt)) → Q b (F cur b))
    {fuel : Nat} {cur : List (Nat × V)} {wl : List Nat} (hwl : ∀ b ∈ wl, P b) (hcur : ∀ k, Q k (getMap cur k dflt))
    {r : List (Nat × V)} (hr : worklistRun F deps dflt fuel cur wl = some r) : ∀ k, Q k (getMap r k dflt) := by
  refine (worklistRun_induct F deps dflt (fun cur wl => (∀ b ∈ wl, P b) ∧ ∀ k, Q k (getMap cur k dflt))
    ?_ ?_ fuel cur wl ⟨hwl, hcur⟩ r hr).2
  · intro cur b rest h _
    exact ⟨fun x hx => h.1 x (List.mem_cons_of_mem _ hx), h.2⟩
  · intro cur b rest wl h _ hwl
    have hb : P b := h.1 b List.mem_cons_self
    refine ⟨fun x hx => ?_, fun k => ?_⟩
    · rcases (hwl x).mp hx with hx | hx
      · exact h.1 x (List.mem_cons_of_mem _ hx)
      · exact hdeps b hb x hx
    · rw [getMap_updMap]
      split
      · rename_i hk; subst hk; exact hF cur k hb h.2
      · exact h.2 k

/-- invariant of the loop: every block (of interest, `P`) that is not queued satisfies its equation -/
def InvP (P : Nat → Prop) (F : List (Nat × V) → Nat → V) (dflt : V) (cur : List (Nat × V)) (wl : List Nat) : Prop :=
  ∀ b, P b → b ∉ wl → getMap cur b dflt = F cur b

/-- when the worklist loop stops, its result solves the equations of the blocks in `P` — provided the new value of a block
    depends only on the blocks in `inputs b`, and changing a block re-queues every block of `P` that reads it. -/
theorem worklistRun_solutionP (P : Nat → Prop) (F : List (Nat × V) → Nat → V) (deps inputs : Nat → List Nat) (dflt : V)
    (hloc : ∀ cur cur' b, (∀ i ∈ inputs b, getMap cur i dflt = getMap cur' i dflt) → F cur b = F cur' b)
    (hdeps : ∀ b i, P b → i ∈ inputs b → b ∈ deps i) :
    ∀ (fuel : Nat) (cur : List (Nat × V)) (wl : List Nat), InvP P F dflt cur wl →
      ∀ r, worklistRun F deps dflt fuel cur wl = some r → ∀ b, P b → getMap r b dflt = F r b := by
  intro fuel cur wl hinv r hr b hb
  refine worklistRun_induct F deps dflt (InvP P F dflt) ?_ ?_ fuel cur wl hinv r hr b hb List.not_mem_nil
  · intro cur b rest hinv heq x hpx hx
    by_cases hxb : x = b
    · subst hxb; exact heq.symm
    · exact hinv x hpx (by simp [hxb, hx])
  · intro cur b rest wl hinv _ hwl x hpx hx
    rw [hwl] at hx
    -- `x` is not a dependent of `b`, so it does not read `b`: its equation sees the old values
    have hlocx : F (updMap cur b (F cur b)) x = F cur x := by
      apply hloc
      intro i hi
      have : i ≠ b := fun e => hx (Or.inr (hdeps x b hpx (e ▸ hi)))
      rw [getMap_updMap, if_neg this]
    rw [getMap_updMap, hlocx]
    split
    · rename_i hxb; rw [hxb]
    · rename_i hxb
      exact hinv x hpx (fun h => (List.mem_cons.mp h).elim hxb (fun h => hx (Or.inl h)))

def Inv (F : List (Nat × V) → Nat → V) (dflt : V) (cur : List (Nat × V)) (wl : List Nat) : Prop :=
  ∀ b, b ∉ wl → getMap cur b dflt = F cur b

theorem worklistRun_solution (F : List (Nat × V) → Nat → V) (deps inputs : Nat → List Nat) (dflt : V)
    (hloc : ∀ cur cur' b, (∀ i ∈ inputs b, getMap cur i dflt = getMap cur' i dflt) → F cur b = F cur' b)
    (hdeps : ∀ b i, i ∈ inputs b → b ∈ deps i) :
    ∀ (fuel : Nat) (cur : List (Nat × V)) (wl : List Nat), Inv F dflt cur wl →
      ∀ r, worklistRun F deps dflt fuel cur wl = some r → ∀ b, getMap r b dflt = F r b :=
  fun fuel cur wl hinv r hr b =>
    worklistRun_solutionP (fun _ => True) F deps inputs dflt hloc (fun b i _ => hdeps b i) fuel cur wl
      (fun b _ => hinv b) r hr b trivial

theorem worklistRun_keeps {F : List (Nat × V) → Nat → V} {deps : Nat → List Nat} {dflt : V} (x : Nat) (c : V)
    (hx : ∀ cur, F cur x = getMap cur x dflt) {fuel : Nat} {cur : List (Nat × V)} {wl : List Nat}
    (hc : getMap cur x dflt = c) {r : List (Nat × V)} (hr : worklistRun F deps dflt fuel cur wl = some r) :
    getMap r x dflt = c :=
  worklistRun_pointwise (fun _ => True) (fun k v => k = x → v = c) (fun _ _ _ _ => trivial)
    (fun cur b _ h e => by subst e; rw [hx]; exact h b rfl) (fun _ _ => trivial) (fun k e => e ▸ hc) hr x rfl

end Tealer.Worklist
