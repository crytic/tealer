/-
  Lemmas about the address domain (model of addr_fields.py): set algebra with the ANY / NO markers.
-/
import TealerModel.Dom
namespace Tealer.Addr

/-- `v` is the token of a non-zero address (a literal, or CREATOR_ADDRESS); markers are not addresses -/
def IsAddr (v : String) : Prop := v ≠ ANY_ADDRESS ∧ v ≠ NO_ADDRESS

/-- concretisation for non-zero addresses: the NO marker admits nothing, the ANY marker everything
    (the zero address is admitted by every value: `field == ZeroAddress` is represented by the null set) -/
def gamma (s : AddrSet) (v : String) : Prop :=
  ¬ NO_ADDRESS ∈ s ∧ (ANY_ADDRESS ∈ s ∨ v ∈ s)

instance (s : AddrSet) (v : String) : Decidable (gamma s v) := by unfold gamma; exact inferInstance

theorem univ_top (v : String) : gamma addrUniv v := by
  simp [gamma, addrUniv, ANY_ADDRESS, NO_ADDRESS]

theorem null_bot (v : String) : ¬ gamma addrNull v := by
  simp [gamma, addrNull]

theorem union_sound (a b : AddrSet) (v : String) :
    gamma a v ∨ gamma b v → gamma (addrUnion a b) v := by
  have : NO_ADDRESS ≠ ANY_ADDRESS := by decide
  simp only [addrUnion, addrUniv, gamma, Bool.or_eq_true, Bool.and_eq_true, List.contains_iff_mem]
  -- left: the five branches of `_union`, each propositional in which of the two markers and `v` the operands hold
  grind [OSet.mem_union]

theorem inter_sound (a b : AddrSet) (v : String) :
    gamma a v → gamma b v → gamma (addrInter a b) v := by
  simp only [addrInter, addrUniv, gamma, Bool.or_eq_true, Bool.and_eq_true, List.contains_iff_mem]
  -- left: the five branches of `_intersection`, in the same way
  grind [OSet.mem_inter]

/-- value denoted by the comparand instruction: `none` = the zero address -/
def comparand (op : Op) : Option (Option String) :=
  match op with
  | .global "ZeroAddress" => some none
  | .addr a => some (if a == ZERO_ADDRESS then none else some a)
  | .global "CreatorAddress" => some (some CREATOR_ADDRESS)
  | _ => none

/-- `_get_asserted_address`: when the comparand is a literal / ZeroAddress / CreatorAddress, the returned set
    admits the non-zero address equal to it -/
theorem assertedAddress_sound (op : Op) (text : String) (v : String) (hv : IsAddr v)
    (hden : comparand op = some (some v)) : gamma (assertedAddress op text) v := by
  unfold comparand at hden
  unfold assertedAddress
  split at hden
  · cases hden
  · split at hden <;> cases hden
    rename_i hne
    simp [gamma, hne, hv.1.symm, hv.2.symm]
  · cases hden
    simp [gamma, CREATOR_ADDRESS, ANY_ADDRESS, NO_ADDRESS]
  · cases hden

/-- where the detector predicate `not any_addr` holds, some address is excluded: a set without the ANY marker admits only the
    addresses it lists -/
theorem notAny_excludes (s : AddrSet) (v : String) (h : s.contains ANY_ADDRESS = false) (hv : ¬ v ∈ s) :
    ¬ gamma s v :=
  fun hg => hg.2.elim (by simpa using h) hv

end Tealer.Addr
