/-
  Exactness of the two passes (MFP ⊆ MOP for a distributive framework): in what the forward worklist computes, a value
  is in a block's set only if some path from the entry justifies it — every block constraint and every edge constraint
  along the path admits the value (and at a return point also the call site does); in what the backward worklist computes,
  only if some path down to a leaf does (`BJustified`).  With `Flow.forward_sound` / `Flow.backward_sound` (every concrete
  accepting trace is admitted) this pins the computed sets from both sides.
-/
import TealerModel.Lemmas.Solver
namespace Tealer.Exact
open Tealer.Worklist Flow

variable {D V : Type} [DecidableEq D]

/-- a membership reading of the domain for which union and intersection are exact and the null value is empty -/
structure ExactLaws (A : Analysis D) (mem : D → V → Prop) : Prop where
  union : ∀ a b v, mem (A.dom.union a b) v ↔ mem a v ∨ mem b v
  inter : ∀ a b v, mem (A.dom.inter a b) v ↔ mem a v ∧ mem b v
  null : ∀ v, ¬ mem A.dom.null v

/-- `v` is justified at block `b`: a chain of predecessors back to the entry along which every block constraint and every
    edge constraint admits `v`; a return point additionally needs its call site justified -/
inductive Justified (A : Analysis D) (mem : D → V → Prop) (g : Graph) (univ : D) (bc : Nat → D) (pc : Nat → Nat → D) (v : V) :
    Nat → Prop
  | entry (b : Nat) : b = g.entry → mem univ v → mem (bc b) v →
      (∀ c, g.callsubOf b = some c → Justified A mem g univ bc pc v c) → Justified A mem g univ bc pc v b
  | step (b p : Nat) : p ∈ g.prevG b → Justified A mem g univ bc pc v p → mem (pc b p) v → mem (bc b) v →
      (∀ c, g.callsubOf b = some c → Justified A mem g univ bc pc v c) → Justified A mem g univ bc pc v b

/-- backward counterpart: `v` is justified at `b` by a chain of successors down to a leaf, every block on it admitting `v`
    in its forward value; a call site whose callee can return additionally needs its return point justified -/
inductive BJustified (A : Analysis D) (mem : D → V → Prop) (g : Graph) (ctx1 : Nat → D) (v : V) : Nat → Prop
  | leaf (b : Nat) : g.isLeaf b = true → mem (ctx1 b) v → BJustified A mem g ctx1 v b
  | step (b n : Nat) : g.isLeaf b = false → n ∈ g.nextG b → BJustified A mem g ctx1 v n → mem (ctx1 b) v →
      (∀ r, g.retPointOf b = some r → g.calleeHasRetsub b = true → BJustified A mem g ctx1 v r) →
      BJustified A mem g ctx1 v b

section
variable {A : Analysis D} {mem : D → V → Prop} (L : ExactLaws A mem)
include L

theorem mem_foldl_union (t : Nat → D) (ps : List Nat) (init : D) (v : V) :
    mem (ps.foldl (fun acc p => A.dom.union acc (t p)) init) v ↔ mem init v ∨ ∃ p ∈ ps, mem (t p) v := by
  induction ps generalizing init with
  | nil => simp
  | cons p ps ih =>
    rw [List.foldl_cons, ih, L.union, or_assoc]
    simp only [List.mem_cons, exists_eq_or_imp]

/-- exactness: the right-hand side of an equation admits exactly what `Flow.meetJoin_sound` says it admits -/
theorem meetJoin_mem {init : D} {ps : List Nat} {t : Nat → D} {o : Option Nat} {x : Nat → D} {bc : D} {v : V} :
    mem (meetJoin A init ps t o x bc) v ↔
      (mem init v ∨ ∃ p ∈ ps, mem (t p) v) ∧ (∀ c, o = some c → mem (x c) v) ∧ mem bc v := by
  unfold meetJoin
  cases o with
  | none => simp only [L.inter, mem_foldl_union L, reduceCtorEq, false_implies, implies_true, true_and]
  | some c => simp only [L.inter, mem_foldl_union L, and_assoc, Option.some.injEq, forall_eq']

variable (g : Graph) (univ : D) (bc : Nat → D) (pc : Nat → Nat → D) (ctx1 : Nat → D)

theorem fwdF_justified (cur : List (Nat × D))
    (hcur : ∀ k v, mem (getMap cur k A.dom.null) v → Justified A mem g univ bc pc v k)
    (b : Nat) (v : V) (h : mem (fwdF A g univ bc pc cur b) v) : Justified A mem g univ bc pc v b := by
  rw [fwdF_eq, meetJoin_mem L] at h
  obtain ⟨h0, hcall, hbc⟩ := h
  have hcall' := fun c hc => hcur c v (hcall c hc)
  rcases h0 with h0 | ⟨p, hp, hpm⟩
  · split at h0
    · rename_i he
      exact Justified.entry b (by simpa using he) h0 hbc hcall'
    · exact absurd h0 (L.null v)
  · rw [L.inter] at hpm
    exact Justified.step b p hp (hcur p v hpm.1) hpm.2 hbc hcall'

theorem solveFwd_justified (r : List (Nat × D)) (h : solveFwd A g univ bc pc = some r) :
    ∀ k v, mem (getMap r k A.dom.null) v → Justified A mem g univ bc pc v k := by
  refine worklistRun_pointwise (fun _ => True) (fun k d => ∀ v, mem d v → Justified A mem g univ bc pc v k)
    (fun _ _ _ _ => trivial) (fun cur b _ hcur => fwdF_justified L g univ bc pc cur hcur b) (fun _ _ => trivial) ?_ h
  intro k v hk
  rw [getMap_map_keys, ite_self] at hk
  exact absurd hk (L.null v)

theorem bwdF_justified (cur : List (Nat × D)) (hcur : ∀ k v, mem (getMap cur k A.dom.null) v → BJustified A mem g ctx1 v k)
    (b : Nat) (v : V) (h : mem (bwdF A g ctx1 cur b) v) : BJustified A mem g ctx1 v b := by
  rw [bwdF_eq] at h
  split at h
  · exact hcur b v h
  · rename_i hl
    rw [meetJoin_mem L] at h
    obtain ⟨h0, hret, hb⟩ := h
    obtain ⟨n, hn, hnm⟩ := h0.resolve_left (L.null v)
    exact BJustified.step b n (by simpa using hl) hn (hcur n v hnm) hb
      (fun r hr hc => hcur r v (hret r (retRead_eq_some.mpr ⟨hr, hc⟩)))

theorem solveBwd_justified (r : List (Nat × D)) (h : solveBwd A g ctx1 = some r) :
    ∀ k v, mem (getMap r k A.dom.null) v → BJustified A mem g ctx1 v k := by
  refine worklistRun_pointwise (fun _ => True) (fun k d => ∀ v, mem d v → BJustified A mem g ctx1 v k)
    (fun _ _ _ _ => trivial) (fun cur b _ hcur => bwdF_justified L g ctx1 cur hcur b) (fun _ _ => trivial) ?_ h
  intro k v hk
  rw [getMap_map_keys] at hk
  -- initially only the leaves of the function hold anything: their forward values
  split at hk
  · split at hk
    · rename_i hl; exact BJustified.leaf k hl hk
    · exact absurd hk (L.null v)
  · exact absurd hk (L.null v)

end

/-- both passes: a value in the final set of a block is justified backward down to a leaf through blocks whose forward sets
    contain it, and in each of those forward sets it is justified forward from the entry -/
theorem solve_justified {A : Analysis D} {mem : D → V → Prop} (L : ExactLaws A mem) (g : Graph) (univ : D)
    (bc : Nat → D) (pc : Nat → Nat → D) (r : List (Nat × D)) (h : solve A g univ bc pc = .ok r) :
    ∃ rout, solveFwd A g univ bc pc = some rout ∧
      (∀ k v, mem (getMap rout k A.dom.null) v → Justified A mem g univ bc pc v k) ∧
      (∀ k v, mem (getMap r k A.dom.null) v → BJustified A mem g (fun k => getMap rout k A.dom.null) v k) := by
  obtain ⟨rout, h1, h2⟩ := (Solver.solve_ok A g univ bc pc r).mp h
  exact ⟨rout, h1, solveFwd_justified L g univ bc pc rout h1, solveBwd_justified L g _ r h2⟩

end Tealer.Exact
