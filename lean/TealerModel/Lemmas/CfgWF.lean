/-
  The block graph built by the third and fourth pass (`graphOf`).  Both passes only extend the edgeless blocks of create_bb
  by edges (`Ext`), so the graph is a list of edges read two ways (`graphOf_edges`).  Hence it is well-formed: every
  successor recorded for a block is the index of a created block (so the hypothesis `Reach.WF` of `identifyBlocks_spec`
  holds for the graphs parse_teal builds).
-/
import TealerModel.Lemmas.Reach
import TealerModel.Lemmas.BlockShape
namespace Tealer.CfgWF
open Tealer.Reach

theorem blockOfIns_ok {blocks : List (List Nat)} {k B : Nat} (h : blockOfIns blocks k = .ok B) :
    B < blocks.length ∧ k ∈ blocks[B]! := by
  unfold blockOfIns at h
  split at h
  · next b id hf =>
    cases h
    obtain ⟨hlt, hb⟩ := List.getElem?_eq_some_iff.mp (List.mem_zipIdx_iff_getElem?.mp (List.mem_of_find?_eq_some hf))
    rw [getElem!_pos blocks B hlt, hb]
    exact ⟨hlt, by simpa using List.find?_some hf⟩
  · cases h

theorem blockOfIns_of_mem {blocks : List (List Nat)} {k : Nat} (h : k ∈ blocks.flatten) : ∃ B, blockOfIns blocks k = .ok B := by
  obtain ⟨blk, hblk, hin⟩ := List.mem_flatten.mp h
  obtain ⟨j, hj, rfl⟩ := List.getElem_of_mem hblk
  unfold blockOfIns
  cases hf : blocks.zipIdx.find? (fun (b, _) => b.contains k) with
  | some y => exact ⟨y.2, rfl⟩
  | none =>
    have := List.find?_eq_none.mp hf (blocks[j], j) (List.mem_zipIdx_iff_getElem?.mpr (List.getElem?_eq_getElem hj))
    simp [hin] at this

/-- the graph the subroutine discovery of `parseTeal` runs on: blocks and default edges of the third pass, jump edges of
    the fourth -/
def graphOf (ins : List Ins) (nexts : List (List Nat)) : Except Err (List RawBlock) :=
  fourthPass (createBB ins nexts).1 nexts
    ((createBB ins nexts).2.foldl (fun bs (e : Nat × Nat) => addEdge bs e.1 e.2)
      ((createBB ins nexts).1.map fun b => ({ ins := b } : RawBlock)))

/-- `c` is `bs` with edges to blocks below `n` added: every block has the successor and predecessor list that `addEdge`
    makes of its old one, edge after edge -/
def Ext (n : Nat) (bs c : List RawBlock) : Prop :=
  ∃ es : List (Nat × Nat), (∀ e ∈ es, e.2 < n) ∧ c.length = bs.length ∧ ∀ x, x < bs.length →
    c[x]! = { bs[x]! with
      next := es.foldl (fun l e => if x == e.1 then l ++ [e.2] else l) (bs[x]!).next
      prev := es.foldl (fun l e => if x == e.2 then l ++ [e.1] else l) (bs[x]!).prev }

/-- the list that appending `f e` for every `e` with `p e` makes of `l` -/
theorem foldl_ite_concat {α β : Type} (p : α → Bool) (f : α → β) (es : List α) (l : List β) :
    es.foldl (fun l e => if p e then l ++ [f e] else l) l = l ++ (es.filter p).map f := by
  induction es generalizing l with
  | nil => rw [List.foldl_nil, List.filter_nil, List.map_nil, List.append_nil]
  | cons e es ih =>
    rw [List.foldl_cons, ih, List.filter_cons]
    cases p e
    · rfl
    · exact List.append_assoc ..

namespace Ext

theorem refl (n : Nat) (bs : List RawBlock) : Ext n bs bs := ⟨[], nofun, rfl, fun _ _ => rfl⟩

theorem addEdge {n : Nat} (bs : List RawBlock) (a : Nat) {b : Nat} (hb : b < n) : Ext n bs (addEdge bs a b) :=
  ⟨[(a, b)], fun _ he => List.mem_singleton.mp he ▸ hb, CfgL.addEdge_length .., CfgL.addEdge_get bs a b⟩

theorem trans {n : Nat} {a b c : List RawBlock} (h1 : Ext n a b) (h2 : Ext n b c) : Ext n a c := by
  obtain ⟨es1, hn1, hl1, hg1⟩ := h1
  obtain ⟨es2, hn2, hl2, hg2⟩ := h2
  refine ⟨es1 ++ es2, fun e he => (List.mem_append.mp he).elim (hn1 e) (hn2 e), hl2.trans hl1, fun x hx => ?_⟩
  rw [hg2 x (hl1 ▸ hx), hg1 x hx, List.foldl_append, List.foldl_append]

theorem length {n : Nat} {bs c : List RawBlock} (h : Ext n bs c) : c.length = bs.length := h.elim fun _ hes => hes.2.1

/-- what an extension leaves as it is or only appends to; beyond the end of the lists both sides are the default block -/
theorem keeps {n : Nat} {bs c : List RawBlock} (h : Ext n bs c) (x : Nat) :
    (c[x]!).ins = (bs[x]!).ins ∧ ∀ y ∈ (bs[x]!).next, y ∈ (c[x]!).next := by
  obtain ⟨es, -, hl, hg⟩ := h
  by_cases hx : x < bs.length
  · rw [hg x hx, foldl_ite_concat]
    exact ⟨rfl, fun y hy => List.mem_append_left _ hy⟩
  · rw [getElem!_neg c x (hl ▸ hx), getElem!_neg bs x hx]
    exact ⟨rfl, fun _ hy => hy⟩

/-- loop rule for the fourth pass: if every step that returns extends the graph and establishes `Q` for its element, and
    `Q` is kept when the graph is extended, then the loop extends the graph and `Q` holds of every element -/
theorem foldlM {α : Type} {n : Nat} {f : List RawBlock → α → Except Err (List RawBlock)}
    {Q : α → List RawBlock → Prop} {l : List α} {bs bs' : List RawBlock} (h : l.foldlM f bs = .ok bs')
    (hmono : ∀ a c c1, Ext n c c1 → Q a c → Q a c1)
    (hstep : ∀ a ∈ l, ∀ c c1, Ext n bs c → f c a = .ok c1 → Ext n c c1 ∧ Q a c1) :
    Ext n bs bs' ∧ ∀ a ∈ l, Q a bs' := by
  refine ExceptL.foldlM_ind (fun pre c => Ext n bs c ∧ ∀ a ∈ pre, Q a c) h ⟨refl n bs, nofun⟩ ?_
  intro pre a _ ha c c1 ⟨hE, hpre⟩ hst
  obtain ⟨hE1, hQ⟩ := hstep a ha c c1 hE hst
  refine ⟨hE.trans hE1, fun a' ha' => ?_⟩
  rcases List.mem_append.mp ha' with h | h
  · exact hmono a' c c1 hE1 (hpre a' h)
  · exact List.mem_singleton.mp h ▸ hQ

end Ext

/-- the fourth pass adds edges to blocks; afterwards, for every block, every successor of its exit instruction leads into
    its successor list -/
theorem fourthPass_ext {blocks nexts : List (List Nat)} {bs bs' : List RawBlock}
    (hr : fourthPass blocks nexts bs = .ok bs') :
    Ext blocks.length bs bs' ∧ ∀ id, id < bs.length → ∀ ex, (bs[id]!).ins.getLast? = some ex → ∀ t ∈ nexts[ex]!, ∀ nb,
      blockOfIns blocks t = .ok nb → nb ∈ (bs'[id]!).next := by
  unfold fourthPass at hr
  refine (Ext.foldlM (Q := fun id c => ∀ ex, (bs[id]!).ins.getLast? = some ex → ∀ t ∈ nexts[ex]!, ∀ nb,
    blockOfIns blocks t = .ok nb → nb ∈ (c[id]!).next) hr ?_ ?_).imp_right
    fun hpost id hid => hpost id (List.mem_range.mpr hid)
  · exact fun id _ _ hE h ex hex t ht nb hnb => (hE.keeps id).2 nb (h ex hex t ht nb hnb)
  intro id hid c c1 hE hst
  dsimp only at hst
  split at hst
  · cases hst
  · rename_i ex hex
    rw [(hE.keeps id).1] at hex
    -- the inner loop: all successors of the exit instruction of block `id`
    refine (Ext.foldlM (Q := fun t d => ∀ nb, blockOfIns blocks t = .ok nb → nb ∈ (d[id]!).next) hst ?_ ?_).imp_right
      fun hp1 ex' hex' => Option.some.inj (hex.symm.trans hex') ▸ hp1
    · exact fun t _ _ hE h nb hnb => (hE.keeps id).2 nb (h nb hnb)
    intro t _ d d1 hE1 hst
    obtain ⟨nb, hnb, hst⟩ := ExceptL.bind_ok hst
    suffices Ext blocks.length d d1 ∧ nb ∈ (d1[id]!).next from
      ⟨this.1, fun nb' hnb' => Except.ok.inj (hnb.symm.trans hnb') ▸ this.2⟩
    by_cases hin : (d[id]!).next.contains nb = true
    · rw [if_pos hin] at hst
      cases hst
      exact ⟨Ext.refl _ d, List.contains_iff_mem.mp hin⟩
    · rw [if_neg hin] at hst
      split at hst
      · cases hst
      · cases hst
        refine ⟨Ext.addEdge d id (blockOfIns_ok hnb).1, ?_⟩
        rw [CfgL.addEdge_next d id nb (hE1.length ▸ hE.length ▸ List.mem_range.mp hid)]
        exact List.mem_append_right _ (List.mem_singleton_self nb)

/-- the default edges of the third pass, added to the blocks without edges -/
theorem dflt_ext (ins : List Ins) (nexts : List (List Nat)) :
    Ext (createBB ins nexts).1.length ((createBB ins nexts).1.map fun b => { ins := b })
      ((createBB ins nexts).2.foldl (fun bs (e : Nat × Nat) => addEdge bs e.1 e.2)
        ((createBB ins nexts).1.map fun b => { ins := b })) :=
  List.foldlRecOn (createBB ins nexts).2 (fun c (e : Nat × Nat) => addEdge c e.1 e.2) (Ext.refl ..) fun c hc e he =>
    hc.trans (Ext.addEdge c e.1 (BlockShape.createBB_edges ins nexts e he).2)

/-- the graph of passes 3-4 is a list of edges to created blocks, in creation order: the successors of a block are the
    targets of the edges from it, its predecessors the sources of the edges to it -/
theorem graphOf_edges {ins : List Ins} {nexts : List (List Nat)} {bs : List RawBlock}
    (hg : graphOf ins nexts = .ok bs) :
    ∃ es : List (Nat × Nat), (∀ e ∈ es, e.2 < (createBB ins nexts).1.length) ∧
      bs.length = (createBB ins nexts).1.length ∧ ∀ x, x < (createBB ins nexts).1.length →
        bs[x]! = { ins := (createBB ins nexts).1[x]!, next := (es.filter (x == ·.1)).map (·.2),
                   prev := (es.filter (x == ·.2)).map (·.1) } := by
  obtain ⟨es, hbound, hlen, hget⟩ := (dflt_ext ins nexts).trans (fourthPass_ext hg).1
  rw [List.length_map] at hlen hget
  refine ⟨es, hbound, hlen, fun x hx => ?_⟩
  rw [hget x hx, foldl_ite_concat, foldl_ite_concat]
  simp only [getElem!_pos, hx, List.length_map, List.getElem_map, List.nil_append]

/-- the graph parse_teal builds is well-formed: after the third pass (blocks and default edges) and the fourth pass (jump
    edges), every successor of every block is the index of a created block -/
theorem passes_wf (ins : List Ins) (nexts : List (List Nat)) (bs : List RawBlock)
    (hr : fourthPass (createBB ins nexts).1 nexts
      ((createBB ins nexts).2.foldl (fun bs (e : Nat × Nat) => addEdge bs e.1 e.2)
        ((createBB ins nexts).1.map fun b => ({ ins := b } : RawBlock))) = .ok bs) :
    WF bs ∧ bs.length = (createBB ins nexts).1.length := by
  obtain ⟨es, hbound, hlen, hget⟩ := graphOf_edges hr
  refine ⟨fun x hx y hy => ?_, hlen⟩
  rw [hlen] at hx ⊢
  rw [hget x hx] at hy
  obtain ⟨e, he, rfl⟩ := List.mem_map.mp hy
  exact hbound e (List.mem_filter.mp he).1

end Tealer.CfgWF
