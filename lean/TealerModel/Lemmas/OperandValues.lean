/-
  The operands reconstructed by construct_stack_ast (model: `astStep`) denote the values the AVM really passes: along a
  block, a symbolic cell tagged (p, j) always sits on top of the concrete value that instruction p pushed as its j-th output.
-/
import TealerModel.Ast
import TealerModel.Avm
import TealerModel.Lemmas.StackEffect
import TealerModel.Lemmas.PyLoops
import Mathlib.Data.List.Forall2
namespace Tealer.OperandValues
open Tealer.Avm List

/-- a symbolic cell agrees with a concrete value: a tagged cell holds the value recorded for its tag -/
def Agree (valOf : Nat × Nat → Val) (c : Ref) (v : Val) : Prop := ∀ q, c = some q → v = valOf q

/-- the concrete stack is some pre-block values followed by values that agree, cell by cell, with the symbolic stack -/
def VSim (valOf : Nat × Nat → Val) (sym : List Ref) (stack : List Val) : Prop :=
  ∃ below vs, stack = below ++ vs ∧ Forall₂ (Agree valOf) sym vs

/-- the values after instruction `p` pushed `pushed` -/
def extend (valOf : Nat × Nat → Val) (p : Nat) (pushed : List Val) : Nat × Nat → Val :=
  fun q => if q.1 = p then pushed[q.2]?.getD (valOf q) else valOf q

theorem agree_extend (valOf : Nat × Nat → Val) (p : Nat) (pushed : List Val) (c : Ref) (v : Val)
    (hfresh : ∀ q, c = some q → q.1 ≠ p) (h : Agree valOf c v) : Agree (extend valOf p pushed) c v := by
  intro q hq
  unfold extend
  rw [if_neg (hfresh q hq)]
  exact h q hq

theorem forall₂_newtags (valOf : Nat × Nat → Val) (p : Nat) (pushed : List Val) :
    Forall₂ (Agree (extend valOf p pushed)) ((List.range pushed.length).map fun j => some (p, j)) pushed := by
  rw [forall₂_iff_zip]
  refine ⟨by simp, ?_⟩
  intro c v hcv
  obtain ⟨k, hk, hget⟩ := List.getElem_of_mem hcv
  simp only [List.length_zip, List.length_map, List.length_range, Nat.min_self] at hk
  simp only [List.getElem_zip, List.getElem_map, List.getElem_range, Prod.mk.injEq] at hget
  obtain ⟨rfl, rfl⟩ := hget
  intro q hq
  cases hq
  unfold extend
  rw [if_pos rfl, List.getElem?_eq_getElem hk]
  rfl

theorem forall₂_none (valOf : Nat × Nat → Val) : ∀ l : List Val, Forall₂ (Agree valOf) (List.replicate l.length none) l
  | [] => Forall₂.nil
  | _ :: l => Forall₂.cons (fun _ hq => by cases hq) (forall₂_none valOf l)

/-- `Stack.pop_n_values` without the case distinction: the cells that are missing are unknown -/
theorem popN_eq (st : List Ref) (k : Nat) :
    popN st k = (List.replicate (k - st.length) none ++ st.drop (st.length - k), st.take (st.length - k)) := by
  unfold popN
  by_cases h : k ≤ st.length
  · rw [if_pos h, Nat.sub_eq_zero_of_le h]
    rfl
  · rw [if_neg h, Nat.sub_eq_zero_of_le (Nat.le_of_not_le h)]
    rfl

/-- one step, on tags.  The symbolic stack abbreviates a full stack of tags: below it sit cells from before the block, all
    unknown.  (`C11_sim_step` is this statement; `vsim_step` puts values under the tags.) -/
theorem astStep_full (below sym : List Ref) (hb : ∀ t ∈ below, t = none) (p : Nat) (op : Op)
    (hle : op.pops ≤ (below ++ sym).length) :
    (astStep sym p op).1 = (below ++ sym).drop ((below ++ sym).length - op.pops) ∧
    ∃ below', (∀ t ∈ below', t = none) ∧
      (below ++ sym).take ((below ++ sym).length - op.pops) ++ (List.range op.pushes).map (fun j => some (p, j)) =
        below' ++ (astStep sym p op).2 := by
  rw [List.length_append] at hle ⊢
  unfold astStep popN
  by_cases hk : op.pops ≤ sym.length
  · rw [if_pos hk, Nat.add_sub_assoc hk, List.drop_length_add_append, List.take_length_add_append]
    exact ⟨rfl, below, hb, List.append_assoc _ _ _⟩
  · have h1 : below.length + sym.length - op.pops ≤ below.length :=
      Nat.sub_le_of_le_add (Nat.add_le_add_left (Nat.le_of_not_le hk) _)
    rw [if_neg hk, List.drop_append_of_le_length h1, List.take_append_of_le_length h1]
    refine ⟨?_, _, fun t ht => hb t (List.mem_of_mem_take ht), rfl⟩
    -- the cells taken from below the symbolic stack are unknown
    rw [List.eq_replicate_iff.mpr ⟨rfl, fun t ht => hb t (List.mem_of_mem_drop ht)⟩, List.length_drop,
      ← Nat.sub_sub_right _ (Nat.le_of_not_le hk), Nat.sub_sub_self (Nat.sub_le_of_le_add hle)]

/-- one step, on values.  The reconstructed operands agree with the values on top of the concrete stack, those the
    instruction is about to pop; and when the step replaces them by `pushed` (what `C11_semantics_effect` shows of every
    dedicated opcode), the new symbolic stack agrees with the new concrete one, the instruction's own outputs now recorded -/
theorem vsim_step {valOf : Nat × Nat → Val} {sym : List Ref} {stack : List Val} (p : Nat) {op : Op}
    (h : VSim valOf sym stack) (hpops : op.pops ≤ stack.length) :
    Forall₂ (Agree valOf) (astStep sym p op).1 (stack.drop (stack.length - op.pops)) ∧
    ∀ pushed : List Val, pushed.length = op.pushes → (∀ c ∈ sym, ∀ q, c = some q → q.1 ≠ p) →
      VSim (extend valOf p pushed) (astStep sym p op).2 (stack.take (stack.length - op.pops) ++ pushed) := by
  obtain ⟨below, vs, rfl, hf⟩ := h
  -- the full stack of tags over the whole concrete stack: unknown cells over the values from before the block
  have hB : ∀ t ∈ List.replicate below.length (none : Ref), t = none := fun _ => List.eq_of_mem_replicate
  have hfull : Forall₂ (Agree valOf) (List.replicate below.length none ++ sym) (below ++ vs) :=
    rel_append (forall₂_none valOf below) hf
  have hlen := hfull.length_eq
  obtain ⟨h1, below', _, h2⟩ := astStep_full _ sym hB p op (hlen ▸ hpops)
  rw [hlen] at h1 h2
  refine ⟨h1 ▸ forall₂_drop _ hfull, fun pushed hpush hfresh => ?_⟩
  have hfr : ∀ c ∈ List.replicate below.length none ++ sym, ∀ q, c = some q → q.1 ≠ p := by
    intro c hc q hq
    rcases List.mem_append.mp hc with hc | hc
    · rw [hB c hc] at hq; cases hq
    · exact hfresh c hc q hq
  have hkept := (forall₂_take ((below ++ vs).length - op.pops) ((forall₂_and_left _ _).mpr ⟨hfr, hfull⟩)).imp
    fun c v hcv => agree_extend valOf p pushed c v hcv.1 hcv.2
  have hall : Forall₂ (Agree (extend valOf p pushed)) (_ ++ _) (_ ++ pushed) :=
    rel_append hkept (hpush ▸ forall₂_newtags valOf p pushed)
  rw [h2] at hall
  -- cut the new concrete stack where `below'` ends: what lies above agrees with the new symbolic stack
  exact ⟨_, _, (List.take_append_drop below'.length _).symm, (forall₂_drop_append _ below' _ hall.flip).flip⟩

theorem astStep_cells (sym : List Ref) (p : Nat) (op : Op) :
    (∀ c ∈ (astStep sym p op).1, c = none ∨ c ∈ sym) ∧
    (∀ c ∈ (astStep sym p op).2, c ∈ sym ∨ ∃ j, j < op.pushes ∧ c = some (p, j)) := by
  unfold astStep
  rw [popN_eq]
  refine ⟨fun c hc => ?_, fun c hc => ?_⟩
  · rcases List.mem_append.mp hc with h | h
    · exact Or.inl (List.eq_of_mem_replicate h)
    · exact Or.inr (List.mem_of_mem_drop h)
  · rcases List.mem_append.mp hc with h | h
    · exact Or.inl (List.mem_of_mem_take h)
    · obtain ⟨j, hj, rfl⟩ := List.mem_map.mp h
      exact Or.inr ⟨j, List.mem_range.mp hj, rfl⟩

/-- the symbolic stack after the first `j` instructions of a block -/
def symRun (ins : List Ins) : Nat → List Ref
  | 0 => []
  | j + 1 => (astStep (symRun ins j) j (ins[j]!).op).2

/-- the operand list reconstructed for instruction `j` of the block -/
def argsAt (ins : List Ins) (j : Nat) : List Ref := (astStep (symRun ins j) j (ins[j]!).op).1

theorem constructAst_args (ins : List Ins) : (constructAst ins).args = (List.range ins.length).map (argsAt ins) := by
  have h := PyLoops.foldl_inv ins.zipIdx
    (fun (x : List Ref × List (List Ref)) (y : Ins × Nat) => ((astStep x.1 y.2 y.1.op).2, x.2 ++ [(astStep x.1 y.2 y.1.op).1]))
    (fun k => (symRun ins k, (List.range k).map (argsAt ins))) fun k hk => by
      have hk' : k < ins.length := List.length_zipIdx ▸ hk
      simp only [List.getElem_zipIdx, Nat.zero_add, symRun, argsAt, getElem!_pos ins k hk', List.range_succ, List.map_append,
        List.map_cons, List.map_nil]
  rw [List.length_zipIdx] at h
  -- the loop of `constructAst` is this fold, written with patterns instead of projections
  exact congrArg Prod.snd h

theorem opOf_constructAst (ins : List Ins) (p : Nat) (hp : p < ins.length) : (constructAst ins).opOf p = (ins[p]!).op := by
  unfold Ast.opOf constructAst
  simp [hp]

theorem argsOf_constructAst (ins : List Ins) (p : Nat) (hp : p < ins.length) : (constructAst ins).argsOf p = argsAt ins p := by
  unfold Ast.argsOf
  rw [constructAst_args]
  simp [hp]

/-- beyond the block the stack AST reads as an `err` without operands -/
theorem opOf_constructAst_of_le (ins : List Ins) (p : Nat) (hp : ins.length ≤ p) : (constructAst ins).opOf p = .err := by
  unfold Ast.opOf constructAst
  simp [List.getElem?_eq_none hp]

theorem argsOf_constructAst_of_le (ins : List Ins) (p : Nat) (hp : ins.length ≤ p) : (constructAst ins).argsOf p = [] := by
  unfold Ast.argsOf
  rw [constructAst_args]
  simp [hp]

theorem argsAt_length (ins : List Ins) (j : Nat) : (argsAt ins j).length = (ins[j]!).op.pops := by
  unfold argsAt astStep
  rw [popN_eq, List.length_append, List.length_replicate, List.length_drop, Nat.sub_sub_eq_min, Nat.min_comm,
    Nat.sub_add_min_cancel]

theorem symRun_cells (ins : List Ins) :
    ∀ j, ∀ c ∈ symRun ins j, ∀ q o, c = some (q, o) → q < j ∧ o < (ins[q]!).op.pushes := by
  intro j
  induction j with
  | zero => intro c hc; cases hc
  | succ j ih =>
    intro c hc q o hq
    rcases (astStep_cells (symRun ins j) j (ins[j]!).op).2 c hc with h | ⟨i, hi, hc⟩
    · exact ⟨Nat.lt_succ_of_lt (ih c h q o hq).1, (ih c h q o hq).2⟩
    · cases hc.symm.trans hq
      exact ⟨Nat.lt_succ_self j, hi⟩

theorem argsAt_cells (ins : List Ins) (j : Nat) :
    ∀ c ∈ argsAt ins j, ∀ q o, c = some (q, o) → q < j ∧ o < (ins[q]!).op.pushes := by
  intro c hc q o hq
  rcases (astStep_cells (symRun ins j) j (ins[j]!).op).1 c hc with h | h
  · rw [h] at hq; cases hq
  · exact symRun_cells ins j c h q o hq

/-- a straight run through the first `k` instructions of a block that starts at program position `pc0` -/
structure BlockRun (prog : List Ins) (e : Env) (blockIns : List Ins) (pc0 k : Nat) (st : Nat → State) : Prop where
  len : k ≤ blockIns.length
  code : ∀ j, j < k → prog[pc0 + j]? = some (blockIns[j]!)
  pcs : ∀ j, j ≤ k → (st j).pc = pc0 + j
  steps : ∀ j, j < k → step prog e (st j) = .next (st (j + 1))
  dedicated : ∀ j, j < k → ∀ n a b, (blockIns[j]!).op ≠ .other n a b

variable {prog : List Ins} {e : Env} {blockIns : List Ins} {pc0 k : Nat} {st : Nat → State}

theorem BlockRun.fetch (h : BlockRun prog e blockIns pc0 k st) {j : Nat} (hj : j < k) :
    prog[(st j).pc]? = some (blockIns[j]!) := by
  rw [h.pcs j (Nat.le_of_lt hj)]; exact h.code j hj

theorem BlockRun.effect (h : BlockRun prog e blockIns pc0 k st) {j : Nat} (hj : j < k) :
    StackEffect.Effect (st j).stack (st (j + 1)).stack (blockIns[j]!).op.pops (blockIns[j]!).op.pushes :=
  StackEffect.step_effect prog e _ _ _ (h.fetch hj) (h.dedicated j hj) (h.steps j hj)

/-- the assignment of values to tags that a run determines: (j, i) ↦ what sits, after step `j`, at the `i`-th place above the
    cells step `j` kept -/
def runVal (blockIns : List Ins) (st : Nat → State) (q : Nat × Nat) : Val :=
  ((st (q.1 + 1)).stack[(st q.1).stack.length - (blockIns[q.1]!).op.pops + q.2]?).getD (.int 0)

/-- recording the outputs of step `j` (`extend`, as `vsim_step` does) changes nothing: `runVal` holds them already -/
theorem extend_runVal {j : Nat} {pushed : List Val} (hpops : (blockIns[j]!).op.pops ≤ (st j).stack.length)
    (hstack : (st (j + 1)).stack = (st j).stack.take ((st j).stack.length - (blockIns[j]!).op.pops) ++ pushed) :
    extend (runVal blockIns st) j pushed = runVal blockIns st := by
  funext ⟨q1, q2⟩
  unfold extend
  split
  · rename_i hq
    obtain rfl : q1 = j := hq
    have hlen : ((st q1).stack.take ((st q1).stack.length - (blockIns[q1]!).op.pops)).length =
        (st q1).stack.length - (blockIns[q1]!).op.pops := by rw [List.length_take, Nat.min_eq_left (Nat.sub_le _ _)]
    unfold runVal
    rw [hstack, List.getElem?_append_right (Nat.le_trans (Nat.le_of_eq hlen) (Nat.le_add_right _ _)), hlen,
      Nat.add_sub_cancel_left]
    cases pushed[q2]? <;> rfl
  · rfl

theorem BlockRun.vsim_succ (h : BlockRun prog e blockIns pc0 k st) {j : Nat} (hj : j < k)
    (hsim : VSim (runVal blockIns st) (symRun blockIns j) (st j).stack) :
    Forall₂ (Agree (runVal blockIns st)) (argsAt blockIns j)
      ((st j).stack.drop ((st j).stack.length - (blockIns[j]!).op.pops)) ∧
    VSim (runVal blockIns st) (symRun blockIns (j + 1)) (st (j + 1)).stack := by
  obtain ⟨hpops, pushed, hlen, hstack⟩ := h.effect hj
  obtain ⟨hargs, hnext⟩ := vsim_step j hsim hpops
  have := hnext pushed hlen fun c hc q hq => Nat.ne_of_lt (symRun_cells blockIns j c hc q.1 q.2 hq).1
  rw [← hstack, extend_runVal hpops hstack] at this
  exact ⟨hargs, this⟩

theorem BlockRun.vsim (h : BlockRun prog e blockIns pc0 k st) :
    ∀ j, j ≤ k → VSim (runVal blockIns st) (symRun blockIns j) (st j).stack
  | 0, _ => ⟨(st 0).stack, [], (List.append_nil _).symm, Forall₂.nil⟩
  | j + 1, hj => (h.vsim_succ hj (h.vsim j (Nat.le_of_succ_le hj))).2

/-- a run together with an assignment `valOf` of values to tags that records what every instruction pushed and agrees with the
    reconstructed operand lists on what every instruction popped -/
structure Realised (prog : List Ins) (e : Env) (blockIns : List Ins) (pc0 k : Nat) (st : Nat → State)
    (valOf : Nat × Nat → Val) : Prop where
  run : BlockRun prog e blockIns pc0 k st
  out : ∀ j, j < k → ∀ i, i < (blockIns[j]!).op.pushes →
    (st (j + 1)).stack[(st j).stack.length - (blockIns[j]!).op.pops + i]? = some (valOf (j, i))
  args : ∀ j, j < k → Forall₂ (Agree valOf) (argsAt blockIns j)
    ((st j).stack.drop ((st j).stack.length - (blockIns[j]!).op.pops))

/-- along a whole block there is one assignment of values to tags, `runVal`, under which every operand list `constructAst`
    computes agrees with the values really popped; Unknown operands are values that were on the stack before the block -/
theorem BlockRun.realised (h : BlockRun prog e blockIns pc0 k st) : Realised prog e blockIns pc0 k st (runVal blockIns st) := by
  refine ⟨h, fun j hj i hi => ?_, fun j hj => (h.vsim_succ hj (h.vsim j (Nat.le_of_lt hj))).1⟩
  obtain ⟨hpops, pushed, hlen, hstack⟩ := h.effect hj
  have hlt : (st j).stack.length - (blockIns[j]!).op.pops + i < (st (j + 1)).stack.length := by
    rw [hstack, List.length_append, List.length_take, Nat.min_eq_left (Nat.sub_le _ _), hlen]
    exact Nat.add_lt_add_left hi _
  unfold runVal
  rw [List.getElem?_eq_getElem hlt]
  rfl

end Tealer.OperandValues
