/-
  The two solvers of the model (`solveFwd` = forward_analyis, `solveBwd` = backward_analysis, for one key) return a solution
  of the reach-out / live-out equations on every block of the function, under decidable well-formedness conditions of the
  global graph that the driver evaluates on each program (`fwdWF`, `bwdWF`).  Combined with `Flow.forward_sound` /
  `Flow.backward_sound` this gives: the values the solvers return admit the concrete value at every block of an accepting
  trace.
-/
import TealerModel.Lemmas.Flow
namespace Tealer.Solver
open Flow

variable {D : Type} [DecidableEq D]

theorem mem_fwdDeps {g : Graph} {b d : Nat} : d ∈ fwdDeps g b ↔ d ∈ g.nextG b ∨ g.retPointOf b = some d := by
  unfold fwdDeps; cases g.retPointOf b <;> simp [eq_comm]

theorem mem_bwdDeps {g : Graph} {b d : Nat} : d ∈ bwdDeps g b ↔ d ∈ g.prevG b ∨ g.callsubOf b = some d := by
  unfold bwdDeps; cases g.callsubOf b <;> simp [eq_comm]

/-! The two passes are dual: the reach-out of `b` reads `bwdDeps g b` and its change re-queues `fwdDeps g b`; the live-out of a
    non-leaf `b` reads `fwdDeps g b` and its change re-queues `bwdDeps g b`.  The worklist theorems ask that the re-queued blocks
    cover the readers, i.e. that the two relations are converse on the blocks of the function. -/

theorem fwdF_local (A : Analysis D) (g : Graph) (univ : D) (bc : Nat → D) (pc : Nat → Nat → D)
    (cur cur' : List (Nat × D)) (b : Nat)
    (h : ∀ i ∈ bwdDeps g b, getMap cur i A.dom.null = getMap cur' i A.dom.null) :
    fwdF A g univ bc pc cur b = fwdF A g univ bc pc cur' b := by
  rw [fwdF_eq, fwdF_eq]
  exact meetJoin_congr (fun p hp => by rw [h p (mem_bwdDeps.mpr (Or.inl hp))])
    (fun c hc => h c (mem_bwdDeps.mpr (Or.inr hc)))

theorem fwd_cover (g : Graph) (hmirror : ∀ b ∈ g.keys, ∀ p ∈ g.prevG b, b ∈ g.nextG p)
    (hret : ∀ b ∈ g.keys, ∀ c, g.callsubOf b = some c → g.retPointOf c = some b) :
    ∀ b i, b ∈ g.keys → i ∈ bwdDeps g b → b ∈ fwdDeps g i :=
  fun b i hb hi => mem_fwdDeps.mpr ((mem_bwdDeps.mp hi).imp (hmirror b hb i) (hret b hb i))

/-- decidable conditions: predecessor lists are mirrored by successor lists, and a return point's call site has it as
    return point; every block is initially queued -/
def fwdWF (g : Graph) : Bool :=
  g.keys.all (fun b => (g.prevG b).all fun p => (g.nextG p).contains b) &&
  g.keys.all (fun b => match g.callsubOf b with | some c => g.retPointOf c == some b | none => true) &&
  g.keys.all (fun b => (fwdWorklist g).contains b)

theorem fwdWF_iff (g : Graph) : fwdWF g = true ↔
    (∀ b ∈ g.keys, ∀ p ∈ g.prevG b, b ∈ g.nextG p) ∧
    (∀ b ∈ g.keys, ∀ c, g.callsubOf b = some c → g.retPointOf c = some b) ∧ ∀ b ∈ g.keys, b ∈ fwdWorklist g := by
  simp only [fwdWF, Bool.and_eq_true, List.all_eq_true, List.contains_iff_mem, and_assoc]
  refine and_congr_right fun _ => and_congr_left fun _ => forall₂_congr fun b _ => ?_
  cases g.callsubOf b <;> simp

theorem solveFwd_solution (A : Analysis D) (g : Graph) (univ : D) (bc : Nat → D) (pc : Nat → Nat → D)
    (hwf : fwdWF g = true) (r : List (Nat × D)) (h : solveFwd A g univ bc pc = some r) :
    ∀ b ∈ g.keys, getMap r b A.dom.null = fwdF A g univ bc pc r b := by
  obtain ⟨hmirror, hret, hall⟩ := (fwdWF_iff g).mp hwf
  exact Worklist.worklistRun_solutionP (· ∈ g.keys) (fwdF A g univ bc pc) (fwdDeps g) (bwdDeps g) A.dom.null
    (fwdF_local A g univ bc pc) (fwd_cover g hmirror hret) _ _ _ (fun b hb hnot => absurd (hall b hb) hnot) r h

/-- what the new live-out of `b` reads -/
def bwdInputs (g : Graph) (b : Nat) : List Nat := if g.isLeaf b then [b] else fwdDeps g b

theorem bwdF_local (A : Analysis D) (g : Graph) (bc : Nat → D) (cur cur' : List (Nat × D)) (b : Nat)
    (h : ∀ i ∈ bwdInputs g b, getMap cur i A.dom.null = getMap cur' i A.dom.null) :
    bwdF A g bc cur b = bwdF A g bc cur' b := by
  rw [bwdF_eq, bwdF_eq]
  unfold bwdInputs at h
  split
  · rename_i hl; exact h b (by simp [hl])
  · rename_i hl
    rw [if_neg hl] at h
    exact meetJoin_congr (fun n hn => h n (mem_fwdDeps.mpr (Or.inl hn)))
      (fun r hr => h r (mem_fwdDeps.mpr (Or.inr (retRead_eq_some.mp hr).1)))

theorem bwd_cover (g : Graph) (hmirror : ∀ b ∈ g.keys, g.isLeaf b = false → ∀ n ∈ g.nextG b, b ∈ g.prevG n)
    (hret : ∀ b ∈ g.keys, g.isLeaf b = false → ∀ r, g.retPointOf b = some r → g.callsubOf r = some b) :
    ∀ b i, b ∈ g.keys ∧ g.isLeaf b = false → i ∈ bwdInputs g b → b ∈ bwdDeps g i := by
  intro b i hb hi
  simp only [bwdInputs, hb.2, Bool.false_eq_true, if_false] at hi
  exact mem_bwdDeps.mpr ((mem_fwdDeps.mp hi).imp (hmirror b hb.1 hb.2 i) (hret b hb.1 hb.2 i))

/-- decidable conditions for the backward pass: successor lists are mirrored by predecessor lists, a call site's return
    point has it as call site, and every non-leaf block is initially queued -/
def bwdWF (g : Graph) : Bool :=
  g.keys.all (fun b => (g.nextG b).all fun n => (g.prevG n).contains b) &&
  g.keys.all (fun b => match g.retPointOf b with | some r => g.callsubOf r == some b | none => true) &&
  g.keys.all (fun b => g.isLeaf b || (bwdWorklist g).contains b)

theorem bwdWF_iff (g : Graph) : bwdWF g = true ↔
    (∀ b ∈ g.keys, ∀ n ∈ g.nextG b, b ∈ g.prevG n) ∧
    (∀ b ∈ g.keys, ∀ r, g.retPointOf b = some r → g.callsubOf r = some b) ∧
    ∀ b ∈ g.keys, g.isLeaf b = true ∨ b ∈ bwdWorklist g := by
  simp only [bwdWF, Bool.and_eq_true, List.all_eq_true, List.contains_iff_mem, Bool.or_eq_true, and_assoc]
  refine and_congr_right fun _ => and_congr_left fun _ => forall₂_congr fun b _ => ?_
  cases g.retPointOf b <;> simp

theorem solveBwd_solution (A : Analysis D) (g : Graph) (ctx1 : Nat → D)
    (hwf : bwdWF g = true) (r : List (Nat × D)) (h : solveBwd A g ctx1 = some r) :
    ∀ b ∈ g.keys, getMap r b A.dom.null = bwdF A g ctx1 r b := by
  obtain ⟨hmirror, hret, hall⟩ := (bwdWF_iff g).mp hwf
  intro b hb
  cases hl : g.isLeaf b with
  | true => rw [bwdF_eq, hl, if_pos rfl]
  | false =>
    refine Worklist.worklistRun_solutionP (fun b => b ∈ g.keys ∧ g.isLeaf b = false) (bwdF A g ctx1) (bwdDeps g) (bwdInputs g)
      A.dom.null (bwdF_local A g ctx1) (bwd_cover g (fun b hb _ => hmirror b hb) (fun b hb _ => hret b hb)) _ _ _ ?_ r h b ⟨hb, hl⟩
    intro b hb hnot
    exact absurd ((hall b hb.1).resolve_left (by simp [hb.2])) hnot

theorem solveBwd_leaf (A : Analysis D) (g : Graph) (ctx1 : Nat → D) (r : List (Nat × D))
    (h : solveBwd A g ctx1 = some r) (b : Nat) (hb : b ∈ g.keys) (hl : g.isLeaf b = true) :
    getMap r b A.dom.null = ctx1 b := by
  refine Worklist.worklistRun_keeps b (ctx1 b) ?_ ?_ h
  · intro cur; rw [bwdF_eq, hl, if_pos rfl]
  · rw [Worklist.getMap_map_keys, if_pos hb, hl, if_pos rfl]

theorem solve_ok (A : Analysis D) (g : Graph) (univ : D) (bc : Nat → D) (pc : Nat → Nat → D) (r : List (Nat × D)) :
    solve A g univ bc pc = .ok r ↔
      ∃ rout, solveFwd A g univ bc pc = some rout ∧ solveBwd A g (fun k => getMap rout k A.dom.null) = some r := by
  unfold solve
  cases solveFwd A g univ bc pc with
  | none => simp [bind, Except.bind, throw, throwThe, MonadExceptOf.throw]
  | some rout =>
    simp only [bind, Except.bind, pure, Except.pure, throw, throwThe, MonadExceptOf.throw, Option.some.injEq, exists_eq_left']
    split <;> simp [*]

end Tealer.Solver
