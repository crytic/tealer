/-
  Soundness of `_get_asserted` (model: `getAsserted`, with `_flatten_ast` / `compute_equations` = `flattenAst`):
  for any domain whose union / intersection over-approximate and any sound leaf matcher, if the condition evaluates to
  non-zero the governed value lies in γ(true set), if it evaluates to zero it lies in γ(false set).
  Concrete truth is relational: every unknown operand (a value from before the block) may be true or false.
-/
import TealerModel.Lemmas.Flow
namespace Tealer.Asserted

variable {D V : Type} [DecidableEq D]

/-- concrete truth value of the stack value `r` of a block, given the truth of the leaf conditions -/
inductive Eval (a : Ast) (lv : Nat → Bool) : Ref → Bool → Prop
  | unknown (b) : Eval a lv none b
  | leaf (p o) : a.opOf p ≠ .and → a.opOf p ≠ .or → a.opOf p ≠ .not → Eval a lv (some (p, o)) (lv p)
  | not (p o q o' b) : a.opOf p = .not → a.argsOf p = [some (q, o')] → Eval a lv (some (q, o')) b →
      Eval a lv (some (p, o)) (!b)
  | notUnknown (p o b) : a.opOf p = .not → a.argsOf p = [none] → Eval a lv (some (p, o)) b
  | and (p o l r bl br) : a.opOf p = .and → a.argsOf p = [l, r] → Eval a lv l bl → Eval a lv r br →
      Eval a lv (some (p, o)) (bl && br)
  | or (p o l r bl br) : a.opOf p = .or → a.argsOf p = [l, r] → Eval a lv l bl → Eval a lv r br →
      Eval a lv (some (p, o)) (bl || br)

variable {a : Ast} {lv : Nat → Bool}

theorem Eval.and_inv {p o : Nat} {b : Bool} (hop : a.opOf p = .and) (h : Eval a lv (some (p, o)) b) :
    ∃ l r bl br, a.argsOf p = [l, r] ∧ Eval a lv l bl ∧ Eval a lv r br ∧ (b = true ↔ bl = true ∧ br = true) := by
  cases h with
  | and _ _ l r bl br _ hargs hl hr => exact ⟨l, r, bl, br, hargs, hl, hr, Bool.and_eq_true_iff⟩
  | leaf _ _ h1 _ _ => exact absurd hop h1
  | not _ _ _ _ _ h1 _ _ => rw [hop] at h1; cases h1
  | notUnknown _ _ _ h1 _ => rw [hop] at h1; cases h1
  | or _ _ _ _ _ _ h1 _ _ _ => rw [hop] at h1; cases h1

theorem Eval.or_inv {p o : Nat} {b : Bool} (hop : a.opOf p = .or) (h : Eval a lv (some (p, o)) b) :
    ∃ l r bl br, a.argsOf p = [l, r] ∧ Eval a lv l bl ∧ Eval a lv r br ∧ (b = false ↔ bl = false ∧ br = false) := by
  cases h with
  | or _ _ l r bl br _ hargs hl hr => exact ⟨l, r, bl, br, hargs, hl, hr, Bool.or_eq_false_iff⟩
  | leaf _ _ _ h1 _ => exact absurd hop h1
  | not _ _ _ _ _ h1 _ _ => rw [hop] at h1; cases h1
  | notUnknown _ _ _ h1 _ => rw [hop] at h1; cases h1
  | and _ _ _ _ _ _ h1 _ _ _ => rw [hop] at h1; cases h1

/-- `_flatten_ast` on a connective `node` whose value is `u` exactly when both operands have value `u` (`&&` with `true`,
    `||` with `false`): the condition has value `u` only if every equation of the flattened list has, and the other value
    only if some equation has -/
theorem flatten_eval {node : Op} {u : Bool}
    (hnode : ∀ p o b, a.opOf p = node → Eval a lv (some (p, o)) b →
      ∃ l r bl br, a.argsOf p = [l, r] ∧ Eval a lv l bl ∧ Eval a lv r br ∧ (b = u ↔ bl = u ∧ br = u)) :
    ∀ (n : Nat) (r : Ref) (b : Bool), Eval a lv r b →
      (b = u → ∀ e ∈ flattenAst a node n r, Eval a lv e u) ∧
      (b = !u → ∃ e ∈ flattenAst a node n r, Eval a lv e (!u)) := by
  intro n r
  fun_induction flattenAst a node n r with
  | case3 n p o hop l r hargs ihl ihr =>
    intro b h
    obtain ⟨l', r', bl, br, hargs', hl, hr, hiff⟩ := hnode p o b (eq_of_beq hop) h
    cases hargs.symm.trans hargs'
    simp only [List.mem_append]
    refine ⟨fun hb e he => ?_, fun hb => ?_⟩
    · rcases he with he | he
      · exact (ihl bl hl).1 (hiff.mp hb).1 e he
      · exact (ihr br hr).1 (hiff.mp hb).2 e he
    · by_cases hbl : bl = u
      · have hbr : br = !u := Bool.eq_not.mpr fun hbr => Bool.eq_not.mp hb (hiff.mpr ⟨hbl, hbr⟩)
        obtain ⟨e, he, hev⟩ := (ihr br hr).2 hbr
        exact ⟨e, Or.inr he, hev⟩
      · obtain ⟨e, he, hev⟩ := (ihl bl hl).2 (Bool.eq_not.mpr hbl)
        exact ⟨e, Or.inl he, hev⟩
  | _ =>
    -- every other branch of `flattenAst` returns the reference itself
    intro b h
    refine ⟨fun hb e he => ?_, fun hb => ⟨_, List.mem_singleton.mpr rfl, hb ▸ h⟩⟩
    rw [List.mem_singleton.mp he, ← hb]
    exact h

variable {A : Analysis D} {γ : D → V → Prop}

/-- the side of `_get_asserted` that intersects over the known equations -/
theorem inter_known_sound (L : Flow.GammaLaws A γ) (eqs : List Ref) (g : Nat → D) (U : D) (v : V)
    (hU : γ U v) (h : ∀ q o, some (q, o) ∈ eqs → γ (g q) v) :
    γ ((eqs.filterMap fun r => r.map (·.1)).foldl (fun acc q => A.dom.inter acc (g q)) U) v := by
  refine List.foldlRecOn (motive := (γ · v)) _ _ hU fun acc hacc q hq => ?_
  obtain ⟨r, hr, hrq⟩ := List.mem_filterMap.mp hq
  obtain ⟨⟨q', o⟩, rfl, rfl⟩ := Option.map_eq_some_iff.mp hrq
  exact L.inter_sound _ _ _ hacc (h q' o hr)

/-- the side that unites them, widened to the universal set by an unknown equation -/
theorem union_known_sound (L : Flow.GammaLaws A γ) (eqs : List Ref) (g : Nat → D) (U : D) (v : V) (hU : γ U v)
    (h : ∃ e ∈ eqs, ∀ q o, e = some (q, o) → γ (g q) v) :
    γ (if eqs.any isUnknownRef then U
       else (eqs.filterMap fun r => r.map (·.1)).foldl (fun acc q => A.dom.union acc (g q)) A.dom.null) v := by
  split
  · exact hU
  · rename_i hunk
    obtain ⟨e, he, hg⟩ := h
    match e with
    | none => exact absurd (List.any_eq_true.mpr ⟨none, he, rfl⟩) hunk
    | some (q, o) =>
      exact Flow.foldl_union_sound L _ g _ v (Or.inr ⟨q, List.mem_filterMap.mpr ⟨some (q, o), he, rfl⟩, hg q o rfl⟩)

theorem getAsserted_leaf (A : Analysis D) (intcs : Option (List Nat)) (a : Ast) (key : Key) (n p : Nat)
    (h1 : a.opOf p ≠ .not) (h2 : a.opOf p ≠ .and) (h3 : a.opOf p ≠ .or) :
    getAsserted A intcs a key (n + 1) p = A.single intcs a key p := by
  rw [getAsserted]
  split
  · exact absurd ‹_› h1
  · exact absurd ‹_› h2
  · exact absurd ‹_› h3
  · rfl

/-- `_get_asserted` is sound whenever the leaf matcher is -/
theorem getAsserted_sound (L : Flow.GammaLaws A γ) (ic : Option (List Nat)) (key : Key) (v : V)
    (huniv : γ (A.univ key.base) v)
    (hs : ∀ p, (lv p = true → γ (A.single ic a key p).1 v) ∧ (lv p = false → γ (A.single ic a key p).2 v)) :
    ∀ (n p o : Nat) (b : Bool), Eval a lv (some (p, o)) b →
      (b = true → γ (getAsserted A ic a key n p).1 v) ∧ (b = false → γ (getAsserted A ic a key n p).2 v) := by
  intro n
  induction n with
  | zero => exact fun _ _ _ _ => ⟨fun _ => huniv, fun _ => huniv⟩
  | succ n ih =>
    intro p o b h
    cases h with
    | leaf _ _ h1 h2 h3 =>
      rw [getAsserted_leaf A ic a key n p h3 h1 h2]
      exact hs p
    | not _ _ q o' b' hop hargs hq =>
      have := ih q o' b' hq
      simp only [getAsserted, hop, hargs]
      exact ⟨fun hb => this.2 ((Bool.not_eq_true' b').mp hb), fun hb => this.1 ((Bool.not_eq_false' b').mp hb)⟩
    | notUnknown _ _ _ hop hargs =>
      simp only [getAsserted, hop, hargs]
      exact ⟨fun _ => huniv, fun _ => huniv⟩
    | and _ _ l r bl br hop hargs hl hr =>
      -- `getAsserted` flattens from `(p, 0)` whatever output index the condition was reached through
      obtain ⟨hall, hex⟩ := flatten_eval (u := true) (fun _ _ _ hop h => Eval.and_inv hop h) (n + 1) _ _
        (Eval.and p 0 l r bl br hop hargs hl hr)
      simp only [getAsserted, hop]
      constructor
      · intro hb
        exact inter_known_sound L _ _ _ v huniv fun q o hq => (ih q o true (hall hb _ hq)).1 rfl
      · intro hb
        obtain ⟨e, he, hev⟩ := hex hb
        exact union_known_sound L _ _ _ v huniv ⟨e, he, fun q o hq => (ih q o false (hq ▸ hev)).2 rfl⟩
    | or _ _ l r bl br hop hargs hl hr =>
      obtain ⟨hall, hex⟩ := flatten_eval (u := false) (fun _ _ _ hop h => Eval.or_inv hop h) (n + 1) _ _
        (Eval.or p 0 l r bl br hop hargs hl hr)
      simp only [getAsserted, hop]
      constructor
      · intro hb
        obtain ⟨e, he, hev⟩ := hex hb
        exact union_known_sound L _ _ _ v huniv ⟨e, he, fun q o hq => (ih q o true (hq ▸ hev)).1 rfl⟩
      · intro hb
        exact inter_known_sound L _ _ _ v huniv fun q o hq => (ih q o false (hall hb _ hq)).2 rfl

end Tealer.Asserted
