/-
  Lemmas about the fee domain (model of fee_field.py): concretisation, lattice soundness, operator table.
-/
import TealerModel.Dom
namespace Tealer.Fee

/-- concretisation: the set of fees a FeeValue admits.  An "unknown" bound is read as "bounded by the
    group-cost bound" (the tool's documented heuristic). -/
def gamma (a : FeeValue) (fee : Nat) : Prop :=
  if a.isUnknown then fee ≤ MAX_TRANSACTION_COST else fee ≤ a.value

instance (a : FeeValue) (fee : Nat) : Decidable (gamma a fee) := by unfold gamma; exact inferInstance

/-- the bound a fee value stands for: every lattice fact below is a fact about `max` / `min` of bounds -/
def bound (a : FeeValue) : Nat := if a.isUnknown then MAX_TRANSACTION_COST else a.value

theorem gamma_iff (a : FeeValue) (fee : Nat) : gamma a fee ↔ fee ≤ bound a := by
  unfold gamma bound; split <;> rfl

theorem bound_union (a b : FeeValue) : bound (feeUnion a b) = max (bound a) (bound b) := by
  unfold feeUnion bound; grind

theorem bound_inter (a b : FeeValue) : bound (feeInter a b) = min (bound a) (bound b) := by
  unfold feeInter bound; grind

theorem univ_top (fee : Nat) (h : fee ≤ MAX_UINT64) : gamma feeUniv fee := h

theorem null_only_zero (fee : Nat) : gamma feeNull fee ↔ fee = 0 := Nat.le_zero

theorem inter_exact (a b : FeeValue) (fee : Nat) :
    gamma (feeInter a b) fee ↔ gamma a fee ∧ gamma b fee := by
  rw [gamma_iff, gamma_iff, gamma_iff, bound_inter]; exact Nat.le_min

theorem union_exact (a b : FeeValue) (fee : Nat) :
    gamma (feeUnion a b) fee ↔ gamma a fee ∨ gamma b fee := by
  rw [gamma_iff, gamma_iff, gamma_iff, bound_union]; exact Std.le_max

theorem union_sound (a b : FeeValue) (fee : Nat) :
    gamma a fee ∨ gamma b fee → gamma (feeUnion a b) fee := (union_exact a b fee).mpr

theorem inter_sound (a b : FeeValue) (fee : Nat) :
    gamma a fee → gamma b fee → gamma (feeInter a b) fee := fun ha hb => (inter_exact a b fee).mpr ⟨ha, hb⟩

/-- operator table for any comparand value `cv` whose bound is at least the number `c` compared with -/
theorem assertedMax_bound (op : Cmp) (cv : FeeValue) (c fee : Nat) (hfee : fee ≤ MAX_UINT64) (hc : c ≤ bound cv) :
    (op.eval fee c = true → gamma (feeAssertedMax op cv).1 fee) ∧
    (op.eval fee c = false → gamma (feeAssertedMax op cv).2 fee) := by
  have hU : gamma feeUniv fee := hfee
  have hle : fee ≤ c → gamma cv fee := fun h => (gamma_iff cv fee).mpr (Nat.le_trans h hc)
  -- a fee below `c` is admitted by `cv`, and by `cv.value - 1` when `cv` is known
  have hlt : fee < c → gamma (if cv.isUnknown then cv else { value := cv.value - 1 }) fee := by
    intro h
    split
    · exact hle (Nat.le_of_lt h)
    · rename_i hu
      rw [bound, if_neg hu] at hc
      exact Nat.le_sub_one_of_lt (Nat.lt_of_lt_of_le h hc)
  cases op <;> simp only [Cmp.eval, feeAssertedMax, beq_iff_eq, bne_iff_ne, ne_eq, decide_eq_true_eq, decide_eq_false_iff_not,
    beq_eq_false_iff_ne, bne_eq_false_iff_eq, Nat.not_lt, Nat.not_le, ge_iff_le, gt_iff_lt, apply_ite Prod.fst, apply_ite Prod.snd,
    ite_self]
  · exact ⟨fun h => hle (Nat.le_of_eq h), fun _ => hU⟩
  · exact ⟨fun _ => hU, fun h => hle (Nat.le_of_eq h)⟩
  · exact ⟨hlt, fun _ => hU⟩
  · exact ⟨hle, fun _ => hU⟩
  · exact ⟨fun _ => hU, hle⟩
  · exact ⟨fun _ => hU, hlt⟩

/-- operator table, field as first operand: `fee op c` -/
theorem assertedMax_sound (op : Cmp) (c fee : Nat) (hfee : fee ≤ MAX_UINT64) :
    (op.eval fee c = true → gamma (feeAssertedMax op { value := c }).1 fee) ∧
    (op.eval fee c = false → gamma (feeAssertedMax op { value := c }).2 fee) :=
  assertedMax_bound op { value := c } c fee hfee (Nat.le_refl c)

/-- a comparison with a value the tool cannot evaluate: sound only under the heuristic reading
    "the unknown comparand is at most the group-cost bound" -/
theorem assertedMax_unknown_sound (op : Cmp) (c fee : Nat) (hfee : fee ≤ MAX_UINT64)
    (hHeur : c ≤ MAX_TRANSACTION_COST) :
    (op.eval fee c = true → gamma (feeAssertedMax op { isUnknown := true }).1 fee) ∧
    (op.eval fee c = false → gamma (feeAssertedMax op { isUnknown := true }).2 fee) :=
  assertedMax_bound op { isUnknown := true } c fee hfee hHeur

/-- single direct check: the bound is exactly the implied one (C09, third sentence) -/
theorem single_exact_le (c : Nat) : (feeAssertedMax .le { value := c }).1 = { value := c } := rfl
theorem single_exact_lt (c : Nat) : (feeAssertedMax .lt { value := c }).1 = { value := c - 1 } := rfl
theorem single_exact_eq (c : Nat) : (feeAssertedMax .eq { value := c }).1 = { value := c } := rfl
theorem single_exact_gt_neg (c : Nat) : (feeAssertedMax .gt { value := c }).2 = { value := c } := rfl
theorem single_exact_ge_neg (c : Nat) : (feeAssertedMax .ge { value := c }).2 = { value := c - 1 } := rfl

/-- the detector predicate: a block is "validated" exactly when no fee above the cost bound is admitted -/
theorem feeCheck_iff (v : FeeValue) :
    (v.isUnknown || decide (v.value ≤ MAX_TRANSACTION_COST)) = true ↔ ∀ fee, gamma v fee → fee ≤ MAX_TRANSACTION_COST := by
  rw [Bool.or_eq_true, decide_eq_true_eq]
  unfold gamma
  cases v.isUnknown with
  | true => exact ⟨fun _ _ h => h, fun _ => .inl rfl⟩
  | false => exact ⟨fun h fee hf => Nat.le_trans hf (h.resolve_left nofun), fun h => .inr (h _ (Nat.le_refl _))⟩

end Tealer.Fee
