/-
  Inserting a segment that leaves the symbolic stack as it found it (padding `int c; pop`) into a block: the operand references
  `construct_stack_ast` computes before it are unchanged, those after it are the old ones with positions shifted.
-/
import TealerModel.Lemmas.OperandValues
namespace Tealer.Padding
open OperandValues

/-- positions at or after `k` move by `n` -/
def shiftRef (k n : Nat) : Ref → Ref
  | none => none
  | some (q, o) => some (if q < k then q else q + n, o)

theorem popN_map (f : Ref → Ref) (hf : f none = none) (st : List Ref) (c : Nat) :
    popN (st.map f) c = (((popN st c).1).map f, ((popN st c).2).map f) := by
  rw [popN_eq, popN_eq, List.length_map, List.map_append, List.map_replicate, hf, List.map_drop, List.map_take]

theorem symRun_prefix (a b : List Ins) : ∀ j, (∀ i, i < j → a[i]! = b[i]!) → symRun a j = symRun b j
  | 0, _ => rfl
  | j + 1, h => by
    simp only [symRun]
    rw [symRun_prefix a b j (fun i hi => h i (Nat.lt_succ_of_lt hi)), h j (Nat.lt_succ_self j)]

theorem getElem!_append_left (pre x : List Ins) (i : Nat) (h : i < pre.length) : (pre ++ x)[i]! = pre[i]! := by
  simp [List.getElem!_eq_getElem?_getD, List.getElem?_append_left h]

theorem getElem!_append_right (pre x : List Ins) (i : Nat) : (pre ++ x)[pre.length + i]! = x[i]! := by
  simp [List.getElem!_eq_getElem?_getD, List.getElem?_append_right (Nat.le_add_right _ _)]

theorem astStep_shift (k n : Nat) (st : List Ref) (p : Nat) (hp : k ≤ p) (op : Op) :
    astStep (st.map (shiftRef k n)) (p + n) op =
      (((astStep st p op).1).map (shiftRef k n), ((astStep st p op).2).map (shiftRef k n)) := by
  unfold astStep
  rw [popN_map (shiftRef k n) rfl]
  simp only [List.map_append, List.map_map]
  congr 2
  apply List.map_congr_left
  intro j _
  have : ¬ p < k := Nat.not_lt.mpr hp
  simp [shiftRef, this]

theorem insert_neutral (pre pad post : List Ins)
    (hpad : symRun (pre ++ pad ++ post) (pre.length + pad.length) = symRun (pre ++ pad ++ post) pre.length) :
    (∀ j, j < pre.length → argsAt (pre ++ pad ++ post) j = argsAt (pre ++ post) j) ∧
    ∀ j, argsAt (pre ++ pad ++ post) (pre.length + pad.length + j) =
      (argsAt (pre ++ post) (pre.length + j)).map (shiftRef pre.length pad.length) := by
  have hpre : ∀ i, i < pre.length → (pre ++ pad ++ post)[i]! = (pre ++ post)[i]! := fun i hi => by
    rw [List.append_assoc, getElem!_append_left _ _ _ hi, getElem!_append_left _ _ _ hi]
  have hpost : ∀ j, (pre ++ pad ++ post)[pre.length + pad.length + j]! = (pre ++ post)[pre.length + j]! := fun j => by
    rw [← List.length_append, getElem!_append_right, getElem!_append_right]
  have hrun : ∀ j, symRun (pre ++ pad ++ post) (pre.length + pad.length + j) =
      (symRun (pre ++ post) (pre.length + j)).map (shiftRef pre.length pad.length) := by
    intro j
    induction j with
    | zero =>
      -- no tag on the stack before the segment is at or after the insertion point
      rw [Nat.add_zero, Nat.add_zero, hpad, symRun_prefix _ _ _ hpre]
      refine ((List.map_congr_left fun r hr => ?_).trans (List.map_id _)).symm
      rcases r with _ | ⟨q, o⟩
      · rfl
      · rw [shiftRef, if_pos (symRun_cells (pre ++ post) pre.length _ hr q o rfl).1]
        rfl
    | succ j ih =>
      rw [← Nat.add_assoc, ← Nat.add_assoc, symRun, symRun, ih, hpost j, Nat.add_right_comm pre.length,
        astStep_shift _ _ _ _ (Nat.le_add_right _ _)]
  refine ⟨fun j hj => ?_, fun j => ?_⟩
  · rw [argsAt, argsAt, symRun_prefix _ _ j (fun i hi => hpre i (Nat.lt_trans hi hj)), hpre j hj]
  · rw [argsAt, argsAt, hrun j, hpost j, Nat.add_right_comm pre.length, astStep_shift _ _ _ _ (Nat.le_add_right _ _)]

/-- the reconstruction looks at an instruction only through its pop and push counts -/
theorem symRun_effects (a b : List Ins) (h : ∀ i : Nat, (a[i]!).op.pops = (b[i]!).op.pops ∧ (a[i]!).op.pushes = (b[i]!).op.pushes) :
    ∀ j, symRun a j = symRun b j
  | 0 => rfl
  | j + 1 => by
    simp only [symRun, astStep]
    rw [symRun_effects a b h j, (h j).1, (h j).2]

end Tealer.Padding
