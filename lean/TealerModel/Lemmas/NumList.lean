/-
  `_repr_num_list` (model: `NumList.repr`): the runs it groups a list into are contiguous ranges, so expanding the tokens of the
  short notation gives the list back.
-/
import TealerModel.NumList
namespace Tealer.NumList

theorem groupRuns_spec (l : List Nat) : (groupRuns l).flatten = l ∧ ∀ r ∈ groupRuns l, ∃ a k, r = List.range' a (k + 1) := by
  fun_induction groupRuns l with
  | case1 => exact ⟨rfl, nofun⟩
  | case2 x xs ys rest heq ih =>
    rw [heq, List.forall_mem_cons] at ih
    obtain ⟨hf, ⟨a, k, h⟩, hrest⟩ := ih
    cases (List.cons.inj (h.trans List.range'_succ)).1
    exact ⟨congrArg (x :: ·) hf, List.forall_mem_cons.mpr ⟨⟨x, k + 1, by rw [h]; exact List.range'_succ.symm⟩, hrest⟩⟩
  | case3 x xs y ys rest heq hy ih =>
    rw [heq] at ih
    exact ⟨congrArg (x :: ·) ih.1, List.forall_mem_cons.mpr ⟨⟨x, 0, rfl⟩, ih.2⟩⟩
  | case4 x xs hne ih =>
    -- `groupRuns xs` is `[]` or starts with an empty run; the second is excluded by the invariant
    obtain ⟨hf, hc⟩ := ih
    have hxs : xs = [] := by
      cases hg : groupRuns xs with
      | nil => rw [hg] at hf; exact hf.symm
      | cons r rest =>
        cases r with
        | nil => obtain ⟨a, k, h⟩ := hc [] (hg ▸ List.mem_cons_self); cases h.trans List.range'_succ
        | cons y ys => exact absurd hg (hne y ys rest)
    subst hxs
    exact ⟨rfl, List.forall_mem_cons.mpr ⟨⟨x, 0, rfl⟩, nofun⟩⟩

theorem runToks_denote (a k : Nat) : denote (runToks (List.range' a (k + 1))) = List.range' a (k + 1) := by
  unfold runToks
  split
  · have hlast : (List.range' a (k + 1)).getLastD 0 = a + k := by
      simp [List.getLastD_eq_getLast?, List.getLast?_range']
    have hhead : (List.range' a (k + 1)).headD 0 = a := rfl
    simp only [denote, List.flatMap_cons, List.flatMap_nil, List.append_nil, Tok.expand, hlast, hhead,
      Nat.add_sub_cancel_left]
  · simp [denote, List.flatMap_map, Tok.expand]

theorem denote_append (s t : List Tok) : denote (s ++ t) = denote s ++ denote t := List.flatMap_append

theorem runs_denote (L : List (List Nat)) (h : ∀ r ∈ L, ∃ a k, r = List.range' a (k + 1)) :
    denote (L.flatMap runToks) = L.flatten := by
  induction L with
  | nil => rfl
  | cons r L ih =>
    obtain ⟨⟨a, k, rfl⟩, hL⟩ := List.forall_mem_cons.mp h
    rw [List.flatMap_cons, denote_append, runToks_denote, ih hL, List.flatten_cons]

end Tealer.NumList
