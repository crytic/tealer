/-
  Successor and predecessor lists mirror each other — with multiplicity — in the block graph parse_teal builds (third and
  fourth pass) and still after the pruning of unreachable blocks; a pruned block is left with no successor and is named by
  no predecessor list.
-/
import TealerModel.Lemmas.ParseSubs
namespace Tealer.Mirror

def Mirror (bs : List RawBlock) : Prop :=
  ∀ a b, a < bs.length → b < bs.length → (bs[a]!).next.count b = (bs[b]!).prev.count a

theorem passes_mirror (ins : List Ins) (nexts : List (List Nat)) (bs : List RawBlock)
    (hr : CfgWF.graphOf ins nexts = .ok bs) : Mirror bs := by
  obtain ⟨es, -, hlen, hget⟩ := CfgWF.graphOf_edges hr
  intro a b ha hb
  rw [hlen] at ha hb
  rw [hget a ha, hget b hb]
  -- the two lists are readings of one list of edges: both sides count the edges `(a, b)`
  simp only [List.count, List.countP_map, List.countP_filter]
  refine List.countP_congr fun e _ => ?_
  simp only [Function.comp, Bool.and_eq_true, beq_iff_eq]
  exact ⟨fun h => ⟨h.2.symm, h.1.symm⟩, fun h => ⟨h.2.symm, h.1.symm⟩⟩

/-- the list with block `k` replaced by `g` of it: the two edits of the pruning loop -/
def updAt (bs : List RawBlock) (k : Nat) (g : RawBlock → RawBlock) : List RawBlock :=
  (bs.zipIdx).map fun (blk, id) => if id == k then g blk else blk

theorem updAt_length (bs : List RawBlock) (k : Nat) (g : RawBlock → RawBlock) : (updAt bs k g).length = bs.length := by
  simp [updAt]

theorem updAt_get (bs : List RawBlock) (k : Nat) (g : RawBlock → RawBlock) (x : Nat) (hx : x < bs.length) :
    (updAt bs k g)[x]! = if x = k then g bs[x]! else bs[x]! := by
  rw [updAt, CfgL.getElem!_map_zipIdx _ bs x hx]
  simp only [beq_iff_eq]

theorem removeFirst_ok {l p : List Nat} {x : Nat} (h : removeFirst l x = .ok p) : x ∈ l ∧ p = l.erase x := by
  unfold removeFirst at h
  split at h
  · cases h; exact ⟨by simpa using ‹l.contains x = true›, rfl⟩
  · cases h

theorem count_erase_add {l : List Nat} {x : Nat} (hx : x ∈ l) (a : Nat) :
    l.count a = (l.erase x).count a + if a = x then 1 else 0 := by
  by_cases h : a = x
  · subst h
    rw [List.count_erase_self, if_pos rfl, Nat.sub_add_cancel (List.count_pos_iff.mpr hx)]
  · rw [List.count_erase_of_ne h, if_neg h]
    rfl

theorem pruneOne_eq (bs : List RawBlock) (bi : Nat) :
    pruneOne bs bi = (do
      let bs1 ← (bs[bi]!).next.foldlM (init := bs) (fun bs bn => do
        let p ← removeFirst (bs[bn]!).prev bi
        pure (updAt bs bn fun blk => { blk with prev := p }))
      pure (updAt bs1 bi fun blk => { blk with next := [] })) := rfl

/-- what the pruning of one block does to every block: the pruned block loses its successors, and the predecessor list of
    `x` loses `bi` as often as `x` was a successor of `bi` -/
theorem pruneOne_get {bs bs' : List RawBlock} {bi : Nat} (hr : pruneOne bs bi = .ok bs') :
    bs'.length = bs.length ∧ ∀ x, x < bs.length →
      (bs'[x]!).next = (if x = bi then [] else (bs[x]!).next) ∧
      ∀ a, (bs[x]!).prev.count a = (bs'[x]!).prev.count a + (if a = bi then (bs[bi]!).next.count x else 0) := by
  rw [pruneOne_eq] at hr
  obtain ⟨bs1, h1, hr⟩ := ExceptL.bind_ok hr
  cases hr
  -- the removal loop leaves the successor lists alone, and the predecessor list of `x` has lost `bi` as often as `x`
  -- occurs among the successors visited so far
  have ⟨hlen, hrest⟩ := ExceptL.foldlM_ind (fun pre c => c.length = bs.length ∧ ∀ x, x < bs.length →
    (c[x]!).next = (bs[x]!).next ∧
    ∀ a, (bs[x]!).prev.count a = (c[x]!).prev.count a + (if a = bi then pre.count x else 0)) h1
    ⟨rfl, fun x _ => ⟨rfl, fun a => by rw [List.count_nil, ite_self, Nat.add_zero]⟩⟩ ?_
  · refine ⟨(updAt_length ..).trans hlen, fun x hx => ?_⟩
    rw [updAt_get bs1 bi _ x (hlen ▸ hx)]
    by_cases hxb : x = bi
    · rw [if_pos hxb, if_pos hxb]
      exact ⟨rfl, (hrest x hx).2⟩
    · rw [if_neg hxb, if_neg hxb]
      exact hrest x hx
  intro pre bn _ _ c c1 ⟨hlen, hc⟩ hst
  obtain ⟨p, hp, hst⟩ := ExceptL.bind_ok hst
  cases hst
  obtain ⟨hmem, rfl⟩ := removeFirst_ok hp
  refine ⟨(updAt_length ..).trans hlen, fun x hx => ?_⟩
  obtain ⟨hnext, hprev⟩ := hc x hx
  rw [updAt_get c bn _ x (hlen ▸ hx)]
  by_cases hxb : x = bn
  · -- the block whose predecessor list loses one `bi`
    subst hxb
    rw [if_pos rfl]
    refine ⟨hnext, fun a => ?_⟩
    rw [hprev a, List.count_append, count_erase_add hmem a, List.count_singleton_self]
    by_cases hab : a = bi
    · simp only [if_pos hab]
      rw [Nat.add_assoc, Nat.add_comm 1]
    · simp only [if_neg hab, Nat.add_zero]
  · rw [if_neg hxb]
    refine ⟨hnext, fun a => ?_⟩
    rw [hprev a, List.count_append, List.count_cons_of_ne (Ne.symm hxb), List.count_nil, Nat.add_zero]

theorem pruneOne_mirror {bs bs' : List RawBlock} {bi : Nat} (h : Mirror bs) (hr : pruneOne bs bi = .ok bs') :
    Mirror bs' := by
  obtain ⟨hlen, hget⟩ := pruneOne_get hr
  intro a b ha hb
  rw [hlen] at ha hb
  have hm := h a b ha hb
  have hcount := (hget b hb).2 a
  rw [(hget a ha).1]
  split
  · next hab =>
    subst hab
    rw [if_pos rfl, ← hm] at hcount
    rw [List.count_nil, Nat.right_eq_add.mp hcount]
  · next hab =>
    rw [if_neg hab] at hcount
    exact hm.trans hcount

theorem prune_fold (dead : List Nat) (bs bs' : List RawBlock) (h : Mirror bs) (hd : ∀ d ∈ dead, d < bs.length)
    (hr : dead.foldlM (init := bs) pruneOne = .ok bs') :
    Mirror bs' ∧ bs'.length = bs.length ∧ (∀ d ∈ dead, (bs'[d]!).next = []) ∧
      ∀ x, x < bs.length → x ∉ dead → (bs'[x]!).next = (bs[x]!).next := by
  refine ExceptL.foldlM_ind (fun pre c => Mirror c ∧ c.length = bs.length ∧
    (∀ d ∈ pre, (c[d]!).next = []) ∧ ∀ x, x < bs.length → x ∉ pre → (c[x]!).next = (bs[x]!).next)
    hr ⟨h, rfl, nofun, fun _ _ _ => rfl⟩ ?_
  intro pre d hpre hdd c c1 ⟨hm, hl, hdead, hkeep⟩ hst
  obtain ⟨hl1, hget⟩ := pruneOne_get hst
  refine ⟨pruneOne_mirror hm hst, hl1.trans hl, fun x hx => ?_, fun x hx hnot => ?_⟩
  · have hxl : x < bs.length :=
      (List.mem_append.mp hx).elim (fun e => hd x (hpre x e)) fun e => List.mem_singleton.mp e ▸ hd d hdd
    rw [(hget x (hl ▸ hxl)).1]
    split
    · rfl
    · next hxd => exact hdead x ((List.mem_append.mp hx).resolve_right fun e => hxd (List.mem_singleton.mp e))
  · rw [(hget x (hl ▸ hx)).1, if_neg fun e => hnot (List.mem_append_right _ (List.mem_singleton.mpr e)),
      hkeep x hx fun e => hnot (List.mem_append_left _ e)]

/-- the final block list of `parseTeal`: mirrored with multiplicity; never names a block outside the list; a pruned
    (non-retained) block has no successor and is named in no predecessor list; a retained block keeps the successor list
    of the graph of passes 3-4 (the one subroutine discovery ran on) -/
theorem parse_mirror (ins : List Ins) (t : Teal) (h : parseTeal ins = .ok t) :
    ∃ nexts bs, insNext ins = .ok nexts ∧ CfgWF.graphOf ins nexts = .ok bs ∧ t.allBlocks.length = bs.length ∧
      (∀ a b, a < t.allBlocks.length → b < t.allBlocks.length →
        (t.allBlocks[a]!).next.count b = (t.allBlocks[b]!).prev.count a) ∧
      (∀ d, d < t.allBlocks.length → d ∉ t.live →
        (t.allBlocks[d]!).next = [] ∧ ∀ b, b < t.allBlocks.length → d ∉ (t.allBlocks[b]!).prev) ∧
      (∀ x, x ∈ t.live → x < t.allBlocks.length ∧ (t.allBlocks[x]!).next = (bs[x]!).next) ∧
      (∀ a, a < t.allBlocks.length → ∀ b ∈ (t.allBlocks[a]!).next, b < t.allBlocks.length) := by
  obtain ⟨nexts, bs, reach, bsP, hp⟩ := ParseSubs.parseTeal_inv ins t h
  have hwf := CfgWF.passes_wf ins nexts bs hp.graph_ok
  obtain ⟨hm, hl, hdead, hkeep⟩ := prune_fold _ bs bsP (passes_mirror ins nexts bs hp.graph_ok)
    (fun d hd => List.mem_range.mp (List.mem_filter.mp hd).1) hp.pruned
  -- a block is pruned iff it is not retained
  simp only [List.mem_filter, List.mem_range, List.contains_eq_mem, Bool.not_eq_true', decide_eq_false_iff_not] at hdead hkeep
  have hget := hl ▸ hp.block_get
  rw [hp.live_eq, hp.length_eq, hl]
  simp only [List.mem_filter, List.mem_range, List.contains_eq_mem, decide_eq_true_eq, not_and]
  have hm' : ∀ a b, a < bs.length → b < bs.length → (bsP[a]!).next.count b = (bsP[b]!).prev.count a :=
    fun a b ha hb => hm a b (hl.symm ▸ ha) (hl.symm ▸ hb)
  refine ⟨nexts, bs, hp.nexts_ok, hp.graph_ok, rfl, fun a b ha hb => ?_, fun d hd hnl => ?_, fun x hx => ?_, fun a ha b hb => ?_⟩
  · rw [(hget a ha).1, (hget b hb).2]
    exact hm' a b ha hb
  · have hnil := hdead d ⟨hd, hnl hd⟩
    refine ⟨(hget d hd).1.trans hnil, fun b hb => ?_⟩
    rw [(hget b hb).2]
    exact List.count_eq_zero.mp ((hm' d b hd hb).symm.trans (by rw [hnil]; rfl))
  · exact ⟨hx.1, (hget x hx.1).1.trans (hkeep x hx.1 fun h' => h'.2 hx.2)⟩
  · rw [(hget a ha).1] at hb
    by_cases hr : a ∈ reach
    · rw [hkeep a ha fun h' => h'.2 hr] at hb
      exact hwf.1 a ha b hb
    · rw [hdead a ⟨ha, hr⟩] at hb
      cases hb

end Tealer.Mirror
