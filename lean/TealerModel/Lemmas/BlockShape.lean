/-
  The invariant of the loop of create_bb (third pass) and what it says of the result: the blocks hold the instruction
  positions in order; two instructions are adjacent inside a block only if the first one does not end a block (one
  successor, not `b`, not `callsub`) and the second is not a label; the default edges join created blocks.
-/
import TealerModel.Lemmas.Cfg
namespace Tealer.BlockShape
open Tealer.CfgL

def Adj (l : List Nat) (a b : Nat) : Prop := ∃ pre post, l = pre ++ a :: b :: post

theorem adj_append_single (l : List Nat) (k a b : Nat) (h : Adj (l ++ [k]) a b) :
    Adj l a b ∨ (l.getLast? = some a ∧ b = k) := by
  obtain ⟨pre, post, he⟩ := h
  rcases List.eq_nil_or_concat post with rfl | ⟨post', z, rfl⟩
  · have h1 := List.append_inj' (he.trans (List.append_cons pre a [b])) rfl
    exact .inr ⟨h1.1 ▸ List.getLast?_concat, (List.cons.inj h1.2).1.symm⟩
  · have he' : l ++ [k] = (pre ++ a :: b :: post') ++ [z] := by
      rw [he, List.concat_eq_append, List.append_assoc, List.cons_append, List.cons_append]
    exact .inl ⟨pre, post', (List.append_inj' he' rfl).1⟩

theorem not_adj_nil (a b : Nat) : ¬ Adj [] a b := by
  rintro ⟨pre, post, h⟩
  cases pre <;> simp at h

/-- the decision of create_bb that instruction `k` ends its block -/
def closes (opAt : Nat → Op) (nxAt : Nat → List Nat) (k : Nat) : Bool :=
  decide ((nxAt k).length > 1) || (opAt k).isCallsub || (nxAt k).length == 0 || (opAt k).isB

theorem closes_eq_false {opAt : Nat → Op} {nxAt : Nat → List Nat} {k : Nat} : closes opAt nxAt k = false ↔
    (nxAt k).length = 1 ∧ (opAt k).isCallsub = false ∧ (opAt k).isB = false := by
  simp only [closes, Bool.or_eq_false_iff, decide_eq_false_iff_not, beq_eq_false_iff_ne, ne_eq]
  constructor
  · rintro ⟨⟨⟨h1, hc⟩, h0⟩, hb⟩
    exact ⟨Nat.le_antisymm (Nat.le_of_not_lt h1) (Nat.pos_of_ne_zero h0), hc, hb⟩
  · rintro ⟨h1, hc, hb⟩
    exact ⟨⟨⟨h1 ▸ Nat.lt_irrefl 1, hc⟩, h1 ▸ Nat.one_ne_zero⟩, hb⟩

/-- what holds of the state of create_bb after every single operation of the loop body (closing the block, appending an
    instruction), `m` instructions being placed: they stand in order; of two neighbours inside a block the first does not
    end a block and the second is not a label; a default edge leads from a closed block to the next block index, at most
    that of the open block -/
structure Built (opAt : Nat → Op) (nxAt : Nat → List Nat) (s : BBState) (m : Nat) : Prop where
  placed : BBState.placed s = List.range m
  adj : ∀ blk ∈ s.done ++ [s.cur], ∀ a b, Adj blk a b → closes opAt nxAt a = false ∧ (opAt b).isLabel = false
  edges : ∀ e ∈ s.edges, e.2 = e.1 + 1 ∧ e.2 ≤ s.done.length

/-- invariant of the loop of create_bb after `m` of the `n` instructions: moreover the open block does not end in an
    instruction that closes it, unless all instructions are placed -/
structure Inv (opAt : Nat → Op) (nxAt : Nat → List Nat) (n : Nat) (s : BBState) (m : Nat) : Prop
    extends Built opAt nxAt s m where
  last : ∀ a, s.cur.getLast? = some a → closes opAt nxAt a = false ∨ m = n

theorem Built.close {opAt nxAt s m} (n : Nat) (w : Bool) (h : Built opAt nxAt s m) : Inv opAt nxAt n (s.close w) m := by
  refine ⟨⟨(close_placed s w).trans h.placed, fun blk hb a b hab => ?_, fun e he => ?_⟩, nofun⟩
  · rcases List.mem_append.mp hb with hb | hb
    · exact h.adj blk hb a b hab
    · cases List.mem_singleton.mp hb
      exact absurd hab (not_adj_nil a b)
  · have hlen : (s.close w).done.length = s.done.length + 1 := List.length_append
    have hmem : e ∈ s.edges ∨ e = (s.done.length, s.done.length + 1) := by
      cases w
      · exact .inl he
      · exact (List.mem_append.mp he).imp_right List.mem_singleton.mp
    rw [hlen]
    rcases hmem with he | rfl
    · exact ⟨(h.edges e he).1, Nat.le_succ_of_le (h.edges e he).2⟩
    · exact ⟨rfl, Nat.le_refl _⟩

theorem Inv.step (opAt : Nat → Op) (nxAt : Nat → List Nat) (n : Nat) (s : BBState) (i : Ins) (k : Nat) (nx : List Nat)
    (hop : opAt k = i.op) (hnx : nxAt k = nx) (hk : k < n) (h : Inv opAt nxAt n s k) :
    Inv opAt nxAt n (createBBStep n s (i, k, nx)) (k + 1) := by
  obtain ⟨s0, h0, hlab, ws, hws, heq⟩ := createBBStep_shape n s i k nx
  rw [heq]
  -- the block the instruction is appended to does not end in an instruction that closes it
  have ⟨h0, hlast0⟩ : Built opAt nxAt s0 k ∧ ∀ a, s0.cur.getLast? = some a → closes opAt nxAt a = false := by
    rcases h0 with rfl | rfl
    · exact ⟨h.toBuilt, fun a ha => (h.last a ha).resolve_right (Nat.ne_of_lt hk)⟩
    · exact ⟨(h.toBuilt.close n true).toBuilt, nofun⟩
  have h1 : Built opAt nxAt { s0 with cur := s0.cur ++ [k] } (k + 1) := by
    refine ⟨?_, fun blk hb a b hab => ?_, h0.edges⟩
    · rw [List.range_succ, ← h0.placed, BBState.placed, BBState.placed, List.append_assoc]
    rcases List.mem_append.mp hb with hb | hb
    · exact h0.adj blk (List.mem_append_left _ hb) a b hab
    · cases List.mem_singleton.mp hb
      rcases adj_append_single s0.cur k a b hab with h' | ⟨hl, rfl⟩
      · exact h0.adj s0.cur (List.mem_append_right _ (List.mem_singleton_self _)) a b h'
      · exact ⟨hlast0 a hl, hop ▸ hlab fun e => by rw [e] at hl; cases hl⟩
  cases ws with
  | nil =>
    refine ⟨h1, fun a ha => ?_⟩
    rw [List.foldl_nil, List.getLast?_concat] at ha
    cases ha
    refine (hws rfl).symm.imp (fun ⟨hA, hB⟩ => ?_) id
    rw [closes, hop, hnx, hA, Bool.false_or, hB]
  | cons w ws =>
    exact List.foldlRecOn (motive := fun t => Inv opAt nxAt n t (k + 1)) ws BBState.close (b := BBState.close _ w)
      (h1.close n w) fun t ht w' _ => ht.toBuilt.close n w'

theorem bbAfter_inv (ins : List Ins) (nexts : List (List Nat)) (m : Nat) (hm : m ≤ ins.length) :
    Inv (fun k => (ins[k]!).op) (fun k => nexts[k]!) ins.length (bbAfter ins nexts m) m := by
  induction m with
  | zero =>
    refine ⟨⟨rfl, fun blk hb a b hab => ?_, nofun⟩, nofun⟩
    cases List.mem_singleton.mp hb
    exact absurd hab (not_adj_nil a b)
  | succ m ih => exact Inv.step _ _ _ _ _ m _ rfl rfl hm (ih (Nat.le_of_succ_le hm))

/-- third pass: no instruction is lost, duplicated or reordered -/
theorem _root_.Tealer.CfgL.createBB_partition (ins : List Ins) (nexts : List (List Nat)) (h : nexts.length = ins.length) :
    (createBB ins nexts).1.flatten = List.range ins.length := by
  rw [createBB_eq, h, Nat.min_self, List.flatten_append, List.flatten_singleton]
  exact (bbAfter_inv ins nexts _ (Nat.le_refl _)).placed

/-- the blocks of the third pass: inside a block, an instruction is followed by another one only if it does not end a
    block (exactly one successor, not `b`, not `callsub`) and the follower is not a label -/
theorem createBB_shape (ins : List Ins) (nexts : List (List Nat)) (hlen : nexts.length = ins.length) :
    ∀ blk ∈ (createBB ins nexts).1, ∀ a b, Adj blk a b →
      closes (fun k => (ins[k]!).op) (fun k => nexts[k]!) a = false ∧ ((ins[b]!).op).isLabel = false := by
  rw [createBB_eq, hlen, Nat.min_self]
  exact (bbAfter_inv ins nexts _ (Nat.le_refl _)).adj

/-- the default edges of the third pass join created blocks -/
theorem createBB_edges (ins : List Ins) (nexts : List (List Nat)) :
    ∀ e ∈ (createBB ins nexts).2, e.1 < (createBB ins nexts).1.length ∧ e.2 < (createBB ins nexts).1.length := by
  rw [createBB_eq]
  intro e he
  obtain ⟨hsucc, hle⟩ := (bbAfter_inv ins nexts _ (Nat.min_le_left ..)).edges e he
  rw [hsucc] at hle
  rw [hsucc, List.length_append]
  exact ⟨Nat.lt_succ_of_lt hle, Nat.succ_lt_succ hle⟩

end Tealer.BlockShape
