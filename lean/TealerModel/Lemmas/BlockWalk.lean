/-
  Block-level soundness of the CFG of passes 3-4: an instruction-level successor either is the next instruction inside
  the same block, or the instruction is the last one of its block and the successor's block is in that block's successor
  list.  Together with `StepEdge` this lifts "every step of the concrete semantics follows a recorded instruction
  successor" to blocks.
-/
import TealerModel.Lemmas.BlockShape
import TealerModel.Lemmas.BlockEdge
import TealerModel.Lemmas.StepEdge
namespace Tealer.BlockWalk
open Tealer.BlockShape Tealer.Avm

theorem last_or_adj (l : List Nat) (x : Nat) (hx : x ∈ l) : l.getLast? = some x ∨ ∃ b, Adj l x b := by
  obtain ⟨pre, post, rfl⟩ := List.append_of_mem hx
  cases post with
  | nil => left; simp
  | cons b post' => right; exact ⟨b, pre, post', rfl⟩

theorem mem_block (blocks : List (List Nat)) (n pc : Nat) (hf : blocks.flatten = List.range n) (hpc : pc < n) :
    ∃ B, blockOfIns blocks pc = .ok B ∧ B < blocks.length ∧ pc ∈ blocks[B]! ∧ blocks[B]! ∈ blocks := by
  obtain ⟨B, hB⟩ := CfgWF.blockOfIns_of_mem (hf ▸ List.mem_range.mpr hpc)
  obtain ⟨hlt, hin⟩ := CfgWF.blockOfIns_ok hB
  exact ⟨B, hB, hlt, hin, getElem!_pos blocks B hlt ▸ List.getElem_mem hlt⟩

theorem adj_range {n a b : Nat} (h : Adj (List.range n) a b) : b = a + 1 ∧ b < n := by
  obtain ⟨pre, post, he⟩ := h
  rw [List.range_eq_range'] at he
  -- a segment of a range is a range
  obtain ⟨k, -, -, hseg⟩ := List.range'_eq_append_iff.mp he
  obtain ⟨rfl, -, hseg⟩ := List.range'_eq_cons_iff.mp hseg.symm
  obtain ⟨rfl, hpos, -⟩ := List.range'_eq_cons_iff.mp hseg.symm
  omega

theorem adj_consecutive (blocks : List (List Nat)) (n : Nat) (hf : blocks.flatten = List.range n)
    (blk : List Nat) (hb : blk ∈ blocks) (a b : Nat) (hab : Adj blk a b) : b = a + 1 ∧ b < n := by
  obtain ⟨L, R, rfl⟩ := List.append_of_mem hb
  obtain ⟨pre, post, rfl⟩ := hab
  exact adj_range ⟨L.flatten ++ pre, post ++ R.flatten, by rw [← hf]; simp⟩

theorem insNext_lt (ins : List Ins) (nexts : List (List Nat)) (h : insNext ins = .ok nexts) (k : Nat) (i : Ins)
    (hi : ins[k]? = some i) : ∀ t ∈ nexts[k]!, t < ins.length := by
  obtain ⟨jumps, hj, hn⟩ := StepEdge.insNext_get ins nexts h k i hi
  intro t ht
  rcases List.mem_append.mp (hn ▸ ht) with h1 | h1
  · split at h1
    · next hc =>
      cases List.mem_singleton.mp h1
      exact of_decide_eq_true (Bool.and_eq_true_iff.mp hc).2
    · cases h1
  · obtain ⟨l, _, hlk⟩ := ExceptL.mapM_mem_rev hj h1
    exact StepEdge.lookupLabel_lt hlk

theorem noFallthrough_cases (op : Op) (h : op.noFallthrough = true) : op.isB = true ∨ op.jumpLabels = [] := by
  unfold Op.noFallthrough at h
  split at h
  · exact .inl rfl
  · exact .inr rfl
  · exact .inr rfl
  · exact .inr rfl
  · cases h

/-- an instruction that is followed by another one inside its block has that one as its only successor -/
theorem inner_successor (ins : List Ins) (nexts : List (List Nat)) (h : insNext ins = .ok nexts)
    (blk : List Nat) (hb : blk ∈ (createBB ins nexts).1) (pc b : Nat) (hab : Adj blk pc b) :
    nexts[pc]! = [pc + 1] ∧ b = pc + 1 := by
  have hlen := CfgL.insNext_length ins nexts h
  obtain ⟨hb1, hbn⟩ := adj_consecutive _ _ (CfgL.createBB_partition ins nexts hlen) blk hb pc b hab
  have hlt : pc + 1 < ins.length := hb1 ▸ hbn
  have hpc : pc < ins.length := Nat.lt_of_succ_lt hlt
  obtain ⟨jumps, hj, hn⟩ := StepEdge.insNext_get ins nexts h pc ins[pc] (List.getElem?_eq_getElem hpc)
  -- `pc` does not end a block: it has exactly one successor and is no `b`
  obtain ⟨hone, -, hnb⟩ := closes_eq_false.mp (createBB_shape ins nexts hlen blk hb pc b hab).1
  rw [getElem!_pos ins pc hpc] at hnb
  rw [hn] at hone ⊢
  refine ⟨?_, hb1⟩
  cases hnf : ins[pc].op.noFallthrough
  · -- the default successor is there, so there is no room for a jump
    simp only [hnf, hlt, Bool.not_false, Bool.true_and, decide_true, if_true, List.length_append, List.length_cons,
      List.length_nil] at hone ⊢
    rw [List.eq_nil_of_length_eq_zero (Nat.add_left_cancel hone : jumps.length = 0)]
    rfl
  · -- an instruction without default successor is a `b` or has no successor at all
    rcases noFallthrough_cases _ hnf with hB | hJ
    · rw [hB] at hnb
      cases hnb
    · rw [hJ] at hj
      cases hj
      simp [hnf] at hone

/-- block-level edge soundness.  In the graph `bs` of passes 3-4 over the blocks of the third pass, a recorded
    instruction successor `pc'` of `pc` is either the next instruction inside the block of `pc`, or `pc` is the last
    instruction of its block `B` and the block of `pc'` is in the successor list of `B`. -/
theorem block_walk (ins : List Ins) (nexts : List (List Nat)) (bs : List RawBlock) (h : insNext ins = .ok nexts)
    (hg : CfgWF.graphOf ins nexts = .ok bs) (pc : Nat) (i : Ins) (hi : ins[pc]? = some i)
    (pc' : Nat) (hp : pc' ∈ nexts[pc]!) :
    (∃ blk ∈ (createBB ins nexts).1, Adj blk pc pc' ∧ pc' = pc + 1) ∨
    (∃ B B', blockOfIns (createBB ins nexts).1 pc = .ok B ∧ blockOfIns (createBB ins nexts).1 pc' = .ok B' ∧
      ((createBB ins nexts).1[B]!).getLast? = some pc ∧ B' ∈ (bs[B]!).next) := by
  have hf := CfgL.createBB_partition ins nexts (CfgL.insNext_length ins nexts h)
  obtain ⟨B, hB, hBlt, hBin, hmem⟩ := mem_block _ _ pc hf (List.getElem?_eq_some_iff.mp hi).1
  obtain ⟨B', hB', -⟩ := mem_block _ _ pc' hf (insNext_lt ins nexts h pc i hi pc' hp)
  rcases last_or_adj _ pc hBin with hlast | ⟨b, hab⟩
  · exact .inr ⟨B, B', hB, hB', hlast, BlockEdge.graphOf_post hg hBlt hlast hp hB'⟩
  · obtain ⟨hnx, rfl⟩ := inner_successor ins nexts h _ hmem pc b hab
    cases List.mem_singleton.mp (hnx ▸ hp)
    exact .inl ⟨_, hmem, hab, rfl⟩

/-- every return address on the call stack is the position after a `callsub` instruction -/
def CallsOk (prog : List Ins) (calls : List Nat) : Prop :=
  ∀ a ∈ calls, ∃ c l, a = c + 1 ∧ ∃ i, prog[c]? = some i ∧ i.op = .callsub l

/-- the call-stack invariant is preserved by every step (it holds initially: the stack is empty) -/
theorem callsOk_step (prog : List Ins) (e : Env) (s s' : State) (h : CallsOk prog s.calls)
    (hs : step prog e s = .next s') : CallsOk prog s'.calls := by
  obtain ⟨i, hi, ⟨-, -, -, hc⟩ | ⟨_, -, -, hc⟩ | ⟨l, hop, -, hc⟩ | ⟨-, -, hc⟩⟩ := StepEdge.step_ctl prog e s s' hs
  all_goals rw [hc]
  · exact h
  · exact h
  · intro a ha
    rcases List.mem_append.mp ha with ha | ha
    · exact h a ha
    · exact ⟨s.pc, l, List.mem_singleton.mp ha, i, hi, hop⟩
  · exact fun a ha => h a (List.dropLast_subset _ ha)

theorem callsub_not_adj (ins : List Ins) (nexts : List (List Nat)) (h : insNext ins = .ok nexts)
    (c : Nat) (i : Ins) (l : String) (hi : ins[c]? = some i) (hop : i.op = .callsub l)
    (blk : List Nat) (hb : blk ∈ (createBB ins nexts).1) (b : Nat) : ¬ Adj blk c b := by
  intro hab
  obtain ⟨hc, rfl⟩ := List.getElem?_eq_some_iff.mp hi
  have := (closes_eq_false.mp (createBB_shape ins nexts (CfgL.insNext_length ins nexts h) blk hb c b hab).1).2.1
  rw [getElem!_pos ins c hc, hop] at this
  cases this

/-- the return edge: under the call-stack invariant, a `retsub` step lands — unless it returns past the end of the program —
    in a block that is in the successor list of the block ending with the matching `callsub` (the tool's return point) -/
theorem return_edge (ins : List Ins) (nexts : List (List Nat)) (bs : List RawBlock) (h : insNext ins = .ok nexts)
    (hg : CfgWF.graphOf ins nexts = .ok bs) (calls : List Nat) (hc : CallsOk ins calls) (a : Nat)
    (ha : calls.getLast? = some a) :
    a = ins.length ∨
    ∃ c l i B B', a = c + 1 ∧ ins[c]? = some i ∧ i.op = .callsub l ∧
      blockOfIns (createBB ins nexts).1 c = .ok B ∧ ((createBB ins nexts).1[B]!).getLast? = some c ∧
      blockOfIns (createBB ins nexts).1 a = .ok B' ∧ B' ∈ (bs[B]!).next := by
  obtain ⟨c, l, hac, i, hi, hop⟩ := hc a (List.mem_of_getLast? ha)
  by_cases hend : a = ins.length
  · exact .inl hend
  · right
    have hlt : c + 1 < ins.length := Nat.lt_of_le_of_ne (List.getElem?_eq_some_iff.mp hi).1 (hac ▸ hend)
    -- the return address is the default successor of the `callsub`
    obtain ⟨jumps, _, hn⟩ := StepEdge.insNext_get ins nexts h c i hi
    have hmem : a ∈ nexts[c]! := by
      rw [hn, hac]
      simp [hop, Op.noFallthrough, hlt]
    rcases block_walk ins nexts bs h hg c i hi a hmem with ⟨blk, hblk, hadj, _⟩ | ⟨B, B', hB, hB', hlast, hin⟩
    · exact absurd hadj (callsub_not_adj ins nexts h c i l hi hop blk hblk a)
    · exact ⟨c, l, i, B, B', hac, hi, hop, hB, hlast, hB', hin⟩

end Tealer.BlockWalk
