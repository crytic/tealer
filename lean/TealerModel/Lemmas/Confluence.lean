/-
  Order independence of the worklist loop (model: `worklistRun`): when the transfer function is monotone for an order in
  which the initial values are below every solution, the loop can only reach the least solution — so two runs that start
  from different initial worklist orders (any order a set iteration may give) and both stop agree at every block.
-/
import TealerModel.Lemmas.Solver
namespace Tealer.Confluence
open Tealer.Worklist Flow Solver

variable {V : Type} [DecidableEq V]

def LeMap (le : V → V → Prop) (dflt : V) (a b : List (Nat × V)) : Prop := ∀ k, le (getMap a k dflt) (getMap b k dflt)

section
variable {le : V → V → Prop} {P : Nat → Prop} {F : List (Nat × V) → Nat → V} {deps : Nat → List Nat} {dflt : V}
  {fuel : Nat} {cur r : List (Nat × V)} {wl : List Nat}
  (hdeps : ∀ b, P b → ∀ d ∈ deps b, P d) (hwl : ∀ b ∈ wl, P b) (hr : worklistRun F deps dflt fuel cur wl = some r)
include hdeps hwl hr

/-- the loop never rises above a solution it started below -/
theorem worklistRun_below {s : List (Nat × V)} (hs : ∀ b, P b → getMap s b dflt = F s b)
    (hmono : ∀ cur b, P b → LeMap le dflt cur s → le (F cur b) (F s b)) (hle : LeMap le dflt cur s) : LeMap le dflt r s :=
  worklistRun_pointwise P (fun k v => le v (getMap s k dflt)) hdeps (fun cur b hb h => hs b hb ▸ hmono cur b hb h) hwl hle hr

theorem worklistRun_outside (k : Nat) (hk : ¬ P k) : getMap r k dflt = getMap cur k dflt :=
  worklistRun_pointwise P (fun k v => ¬ P k → v = getMap cur k dflt) hdeps (fun _ _ hb _ hn => absurd hb hn) hwl
    (fun _ _ => rfl) hr k hk

end

/-- two runs of the loop over the same equations, from the same initial values but with different
    initial worklists (both containing every block of `P` that does not already satisfy its equation), that both stop,
    agree at every block up to the order's equivalence (for sets: have the same members) -/
theorem worklistRun_confluent (le : V → V → Prop) (P : Nat → Prop) (F : List (Nat × V) → Nat → V)
    (deps inputs : Nat → List Nat) (dflt : V)
    (hloc : ∀ cur cur' b, (∀ i ∈ inputs b, getMap cur i dflt = getMap cur' i dflt) → F cur b = F cur' b)
    (hcover : ∀ b i, P b → i ∈ inputs b → b ∈ deps i)
    (hdeps : ∀ b, P b → ∀ d ∈ deps b, P d)
    (hmono : ∀ cur s b, P b → LeMap le dflt cur s → le (F cur b) (F s b))
    (init : List (Nat × V)) (hinit : ∀ s, (∀ b, P b → getMap s b dflt = F s b) → (∀ k, ¬ P k → getMap s k dflt = getMap init k dflt) →
      LeMap le dflt init s)
    (wl1 wl2 : List Nat) (h1 : ∀ b ∈ wl1, P b) (h2 : ∀ b ∈ wl2, P b)
    (hi1 : InvP P F dflt init wl1) (hi2 : InvP P F dflt init wl2)
    (f1 f2 : Nat) (r1 r2 : List (Nat × V))
    (hr1 : worklistRun F deps dflt f1 init wl1 = some r1) (hr2 : worklistRun F deps dflt f2 init wl2 = some r2) :
    LeMap le dflt r1 r2 ∧ LeMap le dflt r2 r1 := by
  -- each result is a solution that keeps `init` outside `P`, so `init` is below it, and the other run stays below it
  have s1 := worklistRun_solutionP P F deps inputs dflt hloc hcover f1 init wl1 hi1 r1 hr1
  have s2 := worklistRun_solutionP P F deps inputs dflt hloc hcover f2 init wl2 hi2 r2 hr2
  have i1 := hinit r1 s1 (worklistRun_outside hdeps h1 hr1)
  have i2 := hinit r2 s2 (worklistRun_outside hdeps h2 hr2)
  exact ⟨worklistRun_below hdeps h1 hr1 s2 (fun cur => hmono cur r2) i2,
    worklistRun_below hdeps h2 hr2 s1 (fun cur => hmono cur r1) i1⟩

/-- what order independence needs from a domain -/
structure MonoLaws {D : Type} [DecidableEq D] (A : Analysis D) (le : D → D → Prop) : Prop where
  refl : ∀ a, le a a
  union_mono : ∀ a a' b b', le a a' → le b b' → le (A.dom.union a b) (A.dom.union a' b')
  inter_mono : ∀ a a' b b', le a a' → le b b' → le (A.dom.inter a b) (A.dom.inter a' b')
  null_le : ∀ a, le A.dom.null a

section
variable {D V : Type} [DecidableEq D] {A : Analysis D} {le : D → D → Prop}

theorem mono_of_exact {mem : D → V → Prop} (hu : ∀ a b v, mem (A.dom.union a b) v ↔ mem a v ∨ mem b v)
    (hi : ∀ a b v, mem (A.dom.inter a b) v ↔ mem a v ∧ mem b v) (hn : ∀ a v, mem A.dom.null v → mem a v) :
    MonoLaws A (fun a b => ∀ v, mem a v → mem b v) :=
  { refl := fun _ _ h => h
    union_mono := fun a a' b b' h1 h2 v h => (hu a' b' v).mpr (((hu a b v).mp h).imp (h1 v) (h2 v))
    inter_mono := fun a a' b b' h1 h2 v h => (hi a' b' v).mpr (((hi a b v).mp h).imp (h1 v) (h2 v))
    null_le := hn }

variable (M : MonoLaws A le) (g : Graph) {cur s : List (Nat × D)} (h : LeMap le A.dom.null cur s) (b : Nat)
include M h

theorem fwdF_mono (univ : D) (bc : Nat → D) (pc : Nat → Nat → D) : le (fwdF A g univ bc pc cur b) (fwdF A g univ bc pc s b) := by
  exact meetJoin_mono M.refl M.union_mono M.inter_mono (fun p _ => M.inter_mono _ _ _ _ (h p) (M.refl _))
    (fun c _ => h c)

theorem bwdF_mono (bc : Nat → D) : le (bwdF A g bc cur b) (bwdF A g bc s b) := by
  rw [bwdF_eq, bwdF_eq]
  split
  · exact h b
  · exact meetJoin_mono M.refl M.union_mono M.inter_mono (fun n _ => h n) (fun r _ => h r)

end

/-- forward pass: two runs from any two initial worklists that contain every block, if both stop, give equivalent values at
    every block -/
theorem solveFwd_confluent {D : Type} [DecidableEq D] (A : Analysis D) (le : D → D → Prop) (M : MonoLaws A le) (g : Graph)
    (univ : D) (bc : Nat → D) (pc : Nat → Nat → D)
    (hmirror : ∀ b ∈ g.keys, ∀ p ∈ g.prevG b, b ∈ g.nextG p)
    (hret : ∀ b ∈ g.keys, ∀ c, g.callsubOf b = some c → g.retPointOf c = some b)
    (hclosed : ∀ b ∈ g.keys, ∀ d ∈ fwdDeps g b, d ∈ g.keys)
    (wl1 wl2 : List Nat) (h1 : ∀ b ∈ wl1, b ∈ g.keys) (h2 : ∀ b ∈ wl2, b ∈ g.keys)
    (c1 : ∀ b ∈ g.keys, b ∈ wl1) (c2 : ∀ b ∈ g.keys, b ∈ wl2)
    (f1 f2 : Nat) (r1 r2 : List (Nat × D))
    (hr1 : worklistRun (fwdF A g univ bc pc) (fwdDeps g) A.dom.null f1 (g.keys.map fun k => (k, A.dom.null)) wl1 = some r1)
    (hr2 : worklistRun (fwdF A g univ bc pc) (fwdDeps g) A.dom.null f2 (g.keys.map fun k => (k, A.dom.null)) wl2 = some r2) :
    ∀ k, le (getMap r1 k A.dom.null) (getMap r2 k A.dom.null) ∧ le (getMap r2 k A.dom.null) (getMap r1 k A.dom.null) :=
  forall_and.mpr <| worklistRun_confluent le (· ∈ g.keys) (fwdF A g univ bc pc) (fwdDeps g) (bwdDeps g) A.dom.null
    (fwdF_local A g univ bc pc) (fwd_cover g hmirror hret) hclosed (fun _ _ b _ hle => fwdF_mono M g hle b univ bc pc) _
    (by intro s _ _ k; rw [getMap_map_keys, ite_self]; exact M.null_le _)
    wl1 wl2 h1 h2 (fun b hb hn => absurd (c1 b hb) hn) (fun b hb hn => absurd (c2 b hb) hn) f1 f2 r1 r2 hr1 hr2

/-- backward pass: non-leaf blocks are solved by the worklist, leaves keep the forward values;
    two runs from any two initial worklists that contain every non-leaf block (and only such blocks) agree at every block -/
theorem solveBwd_confluent {D : Type} [DecidableEq D] (A : Analysis D) (le : D → D → Prop) (M : MonoLaws A le) (g : Graph)
    (ctx1 : Nat → D)
    (hmirror : ∀ b ∈ g.keys, g.isLeaf b = false → ∀ n ∈ g.nextG b, b ∈ g.prevG n)
    (hret : ∀ b ∈ g.keys, g.isLeaf b = false → ∀ r, g.retPointOf b = some r → g.callsubOf r = some b)
    (hclosed : ∀ b ∈ g.keys, g.isLeaf b = false → ∀ d ∈ bwdDeps g b, d ∈ g.keys ∧ g.isLeaf d = false)
    (wl1 wl2 : List Nat) (h1 : ∀ b ∈ wl1, b ∈ g.keys ∧ g.isLeaf b = false) (h2 : ∀ b ∈ wl2, b ∈ g.keys ∧ g.isLeaf b = false)
    (c1 : ∀ b ∈ g.keys, g.isLeaf b = false → b ∈ wl1) (c2 : ∀ b ∈ g.keys, g.isLeaf b = false → b ∈ wl2)
    (f1 f2 : Nat) (r1 r2 : List (Nat × D))
    (hr1 : worklistRun (bwdF A g ctx1) (bwdDeps g) A.dom.null f1
      (g.keys.map fun k => (k, if g.isLeaf k then ctx1 k else A.dom.null)) wl1 = some r1)
    (hr2 : worklistRun (bwdF A g ctx1) (bwdDeps g) A.dom.null f2
      (g.keys.map fun k => (k, if g.isLeaf k then ctx1 k else A.dom.null)) wl2 = some r2) :
    ∀ k, le (getMap r1 k A.dom.null) (getMap r2 k A.dom.null) ∧ le (getMap r2 k A.dom.null) (getMap r1 k A.dom.null) := by
  refine forall_and.mpr <| worklistRun_confluent le (fun b => b ∈ g.keys ∧ g.isLeaf b = false) (bwdF A g ctx1) (bwdDeps g)
    (bwdInputs g) A.dom.null (bwdF_local A g ctx1) (bwd_cover g hmirror hret) (fun b hb d hd => hclosed b hb.1 hb.2 d hd)
    (fun _ _ b _ hle => bwdF_mono M g hle b ctx1) _ ?_
    wl1 wl2 h1 h2 (fun b hb hn => absurd (c1 b hb.1 hb.2) hn) (fun b hb hn => absurd (c2 b hb.1 hb.2) hn) f1 f2 r1 r2 hr1 hr2
  -- the non-leaf blocks start at the null value; all others keep their initial value in any solution
  intro s _ hout k
  by_cases hP : k ∈ g.keys ∧ g.isLeaf k = false
  · rw [getMap_map_keys, if_pos hP.1, hP.2]; exact M.null_le _
  · rw [hout k hP]; exact M.refl _

end Tealer.Confluence
