/-
  What the loops of the translated Python compute, as list functions.  Generated/*.lean writes `for x in l:` as `forIn` over a
  list in `Id` or `Option`, with `continue` = `yield` of the unchanged state and `break` = `done`; the Tie* files reason about
  the loops through the statements below and core's `List.forIn_*` lemmas.  The body is a variable with its shape as a hypothesis (`cases` on the
  conditions and `rfl` proves it), so a lemma applies whatever chain of `if`s the translator produced.
-/
import TealerModel.PyView
namespace Tealer.PyLoops

variable {m : Type → Type} [Monad m] [LawfulMonad m] {α β γ : Type}

/-- no `break`: the loop is a fold (core's `List.forIn_pure_yield_eq_foldl`, the body's shape needed only on members) -/
theorem forIn_yield (l : List α) (init : β) (body : α → β → m (ForInStep β)) (f : β → α → β)
    (h : ∀ a ∈ l, ∀ s, body a s = pure (.yield (f s a))) : forIn l init body = pure (l.foldl f init) := by
  induction l generalizing init with
  | nil => rfl
  | cons x xs ih =>
    rw [List.forIn_cons, h x List.mem_cons_self, pure_bind]
    exact ih _ fun a ha => h a (List.mem_cons_of_mem _ ha)

theorem forIn_foldlM (l : List α) (init : β) (f : β → α → m β) :
    forIn l init (fun a s => ForInStep.yield <$> f s a) = l.foldlM f init :=
  (List.forIn_yield_eq_foldlM (fun a s => f s a) (fun _ _ c => c) init).trans (by simp only [id_map'])

/-- `for key in self.KEYS:` is translated for one key, as a loop over `[()]` -/
theorem forIn_singleton (x : α) (init : β) (body : α → β → m (ForInStep β)) :
    forIn [x] init body = (·.value) <$> body x init := by
  rw [List.forIn_cons, map_eq_pure_bind]
  congr 1
  funext r
  cases r <;> rfl

/-- `flag = True; break` at the first hit -/
theorem forIn_any (p : α → Bool) (body : α → Bool → m (ForInStep Bool))
    (h : ∀ a s, body a s = pure (if p a then .done true else .yield s)) (l : List α) (b : Bool) :
    forIn l b body = pure (b || l.any p) := by
  induction l with
  | nil => simp
  | cons x xs ih =>
    rw [List.forIn_cons, h, pure_bind, List.any_cons]
    cases p x
    · simpa using ih
    · simp

/-- a loop whose state after `k` iterations is `I k` -/
theorem foldl_inv (l : List α) (f : β → α → β) (I : Nat → β)
    (h : ∀ k (hk : k < l.length), f (I k) l[k] = I (k + 1)) : l.foldl f (I 0) = I l.length := by
  induction l generalizing I with
  | nil => rfl
  | cons x xs ih =>
    rw [List.foldl_cons, show f (I 0) x = I 1 from h 0 (Nat.zero_lt_succ _)]
    exact ih (fun k => I (k + 1)) fun k hk => h (k + 1) (Nat.succ_lt_succ hk)

/-- `acc.append(f(x))` under a condition -/
theorem foldl_append_filterMap (g : α → Option γ) (l : List α) (acc : List γ) :
    l.foldl (fun s x => s ++ (g x).toList) acc = acc ++ l.filterMap g := by
  induction l generalizing acc with
  | nil => simp
  | cons x xs ih => cases hx : g x <;> simp [ih, hx]

/-- a flag that is set when some member satisfies `p` (the fold that `forIn_yield` makes of `if p(x): flag = True`) -/
theorem foldl_or_any (p : α → Bool) (l : List α) (b : Bool) : l.foldl (fun s x => p x || s) b = (b || l.any p) := by
  induction l generalizing b with
  | nil => simp
  | cons x xs ih => cases hx : p x <;> cases b <;> simp [ih, hx]

theorem foldl_pair (l : List α) (f1 : β → α → β) (f2 : γ → α → γ) (s : β × γ) :
    l.foldl (fun s x => (f1 s.1 x, f2 s.2 x)) s = (l.foldl f1 s.1, l.foldl f2 s.2) := by
  induction l generalizing s with
  | nil => rfl
  | cons x xs ih => simp [ih]

/-- `for k in l: d[k] = f(k)` on a dictionary read as a function (`PyView.dictSet d k v` is `dmapSet d k (some v)`) -/
theorem foldl_dmapSet {V : Type} (f : Nat → V) (l : List Nat) (d : Nat → V) (k : Nat) :
    l.foldl (fun d b => PyView.dmapSet d b (f b)) d k = if k ∈ l then f k else d k := by
  induction l generalizing d with
  | nil => simp
  | cons x xs ih =>
    rw [List.foldl_cons, ih]
    by_cases h1 : k ∈ xs
    · simp [h1]
    · by_cases h2 : k = x <;> simp [h1, h2, PyView.dmapSet]

/-- a loop that reports some members (`flag = True; out.append(f(x))`) and skips the others (`continue`) -/
theorem foldl_report (keep : α → Bool) (f : α → γ) (l : List α) (s : Bool × List γ) :
    l.foldl (fun s x => if keep x then (true, s.2 ++ [f x]) else s) s = (s.1 || l.any keep, s.2 ++ (l.filter keep).map f) := by
  induction l generalizing s with
  | nil => simp
  | cons x xs ih => cases hx : keep x <;> simp [ih, hx]

/-- the flag of such a loop: something was reported -/
theorem any_eq_filter (p : α → Bool) (l : List α) : l.any p = !(l.filter p).isEmpty := by
  induction l with
  | nil => rfl
  | cons x xs ih => cases hx : p x <;> simp [hx, ih]

end Tealer.PyLoops
