/-
  Soundness of the block-level and edge constraints (`_block_level_constraints`, `_path_level_constraints`; model:
  `blockConstraint`, `pathConstraint`) against the concrete semantics: for a straight run through a whole block (no `return` /
  `err` executed), or up to the `return` on which the machine approves, the block constraint of every key, and the constraint
  on the edge the run takes, admit the governed value, provided the leaf matcher is sound for the actual truth of the leaves.
-/
import TealerModel.Lemmas.EvalRun
namespace Tealer.BlockConstraint
open Tealer.Avm Tealer.OperandValues Tealer.EvalRun Tealer.Asserted List

variable {D V : Type} [DecidableEq D]

/-- the loop body of `_block_level_constraints` -/
def bcStep (A : Analysis D) (ic : Option (List Nat)) (a : Ast) (key : Key) (fuel : Nat) (ctx : D) (x : Ins × Nat) : D :=
  match x.1.op with
  | .assert =>
    match condArg a x.2 with
    | none => ctx
    | some q => A.dom.inter ctx (getAsserted A ic a key fuel q).1
  | .ret =>
    match condArg a x.2 with
    | none => ctx
    | some q =>
      if intPush ic (a.opOf q) == some (some (.lit 0)) then A.dom.null
      else A.dom.inter ctx (getAsserted A ic a key fuel q).1
  | .err | .customErr => A.dom.null
  | _ => ctx

theorem blockConstraint_eq (A : Analysis D) (ic : Option (List Nat)) (b : FBlock) (key : Key) :
    blockConstraint A ic b key =
      (b.ins.zipIdx).foldl (bcStep A ic (constructAst b.ins) key (b.ins.length + 1)) (A.univ key.base) := by
  rfl

/-- the successors `_path_level_constraints` treats as fall-through / jump edge of a branching block -/
def edgesOf (pred : FBlock) : Option Nat × Option Nat :=
  match pred.next with
  | [j] => if pred.exitNexts > 1 then (none, none) else (none, some j)
  | d :: j :: _ => (some d, some j)
  | [] => (none, none)

/-- the local function `branch` of `pathConstraint`: the side of the condition popped at position `p` that goes on the edge
    to `succ`, for a `bz` (`isBz`) or a `bnz` -/
def branchSide (A : Analysis D) (ic : Option (List Nat)) (a : Ast) (key : Key) (fuel p : Nat) (edges : Option Nat × Option Nat)
    (succ : Nat) (isBz : Bool) : D :=
  match condArg a p with
  | none => A.univ key.base
  | some q =>
    if edges.1 == some succ then (if isBz then (getAsserted A ic a key fuel q).1 else (getAsserted A ic a key fuel q).2)
    else if edges.2 == some succ then (if isBz then (getAsserted A ic a key fuel q).2 else (getAsserted A ic a key fuel q).1)
    else A.univ key.base

theorem pathConstraint_eq (A : Analysis D) (ic : Option (List Nat)) (b : FBlock) (succ : Nat) (key : Key) :
    pathConstraint A ic b succ key =
      match b.exitOp with
      | some (.bz _) => branchSide A ic (constructAst b.ins) key (b.ins.length + 1) (b.ins.length - 1) (edgesOf b) succ true
      | some (.bnz _) => branchSide A ic (constructAst b.ins) key (b.ins.length + 1) (b.ins.length - 1) (edgesOf b) succ false
      | _ => A.univ key.base := by
  rfl

/-- what the proofs below know of an analysis and a governed value `v`: the domain over-approximates, the universal set admits
    `v`, and the leaf matcher is sound for the leaf truths the run induces (`valOf`: the values the instructions pushed) -/
structure Sound (A : Analysis D) (γ : D → V → Prop) (blockIns : List Ins) (valOf : Nat × Nat → Val)
    (ic : Option (List Nat)) (key : Key) (v : V) : Prop where
  laws : Flow.GammaLaws A γ
  univ : γ (A.univ key.base) v
  leaf : ∀ p, (truthy (valOf (p, 0)) = true → γ (A.single ic (constructAst blockIns) key p).1 v) ∧
    (truthy (valOf (p, 0)) = false → γ (A.single ic (constructAst blockIns) key p).2 v)

variable {A : Analysis D} {γ : D → V → Prop} {prog : List Ins} {e : Env} {blockIns : List Ins} {pc0 k : Nat}
  {st : Nat → State} {valOf : Nat × Nat → Val} {ic : Option (List Nat)} {key : Key} {v : V}

/-- the condition of an `assert` / `bz` / `bnz` / `return`: if instruction `j` pops the integer `n` as its only operand, the
    sets `_get_asserted` computes for that operand admit the governed value on the side of `n` -/
theorem cond_sound (R : Realised prog e blockIns pc0 k st valOf) (S : Sound A γ blockIns valOf ic key v) {j : Nat} (hj : j ≤ k)
    (hjl : j < blockIns.length) {n : Nat} (hag : Forall₂ (Agree valOf) (argsAt blockIns j) [.int n]) {q : Nat}
    (hcond : condArg (constructAst blockIns) j = some q) (fuel : Nat) :
    (n ≠ 0 → γ (getAsserted A ic (constructAst blockIns) key fuel q).1 v) ∧
    (n = 0 → γ (getAsserted A ic (constructAst blockIns) key fuel q).2 v) := by
  obtain ⟨c, hc, hagc⟩ := forall₂_one hag
  rw [condArg, argsOf_constructAst blockIns j hjl, hc] at hcond
  rcases c with _ | ⟨q', o⟩ <;> cases hcond
  have hev := operand_eval blockIns valOf j k hj R.run.dedicated
    (fun q hq => eval_of_realised R q (Nat.lt_of_lt_of_le hq hj)) _ (hc ▸ List.mem_singleton.mpr rfl) n hagc
  have := getAsserted_sound S.laws ic key v S.univ S.leaf fuel q o _ hev
  exact ⟨fun hn => this.1 (bne_iff_ne.mpr hn), fun hn => this.2 (bne_eq_false_iff_eq.mpr hn)⟩

/-- one round of the loop of `_block_level_constraints` keeps the governed value, at an instruction that is no `err` and, when
    it is an `assert` or a `return`, pops a non-zero integer (and is no `int 0; return`) -/
theorem bcStep_sound (R : Realised prog e blockIns pc0 k st valOf) (S : Sound A γ blockIns valOf ic key v) {j : Nat} (hj : j ≤ k)
    (hjl : j < blockIns.length)
    (hpass : (blockIns[j]!).op = .assert ∨ (blockIns[j]!).op = .ret →
      ∃ n, n ≠ 0 ∧ Forall₂ (Agree valOf) (argsAt blockIns j) [.int n])
    (herr : (blockIns[j]!).op ≠ .err ∧ (blockIns[j]!).op ≠ .customErr)
    (hnz : ∀ q, (blockIns[j]!).op = .ret → condArg (constructAst blockIns) j = some q →
      intPush ic ((constructAst blockIns).opOf q) ≠ some (some (.lit 0)))
    (fuel : Nat) (ctx : D) (hctx : γ ctx v) :
    γ (bcStep A ic (constructAst blockIns) key fuel ctx (blockIns[j]!, j)) v := by
  unfold bcStep
  split
  · obtain ⟨n, hn, hag⟩ := hpass (Or.inl ‹_›)
    split
    · exact hctx
    · exact S.laws.inter_sound _ _ _ hctx ((cond_sound R S hj hjl hag ‹_› fuel).1 hn)
  · obtain ⟨n, hn, hag⟩ := hpass (Or.inr ‹_›)
    split
    · exact hctx
    · rw [if_neg (mt eq_of_beq (hnz _ ‹_› ‹_›))]
      exact S.laws.inter_sound _ _ _ hctx ((cond_sound R S hj hjl hag ‹_› fuel).1 hn)
  · exact absurd ‹_› herr.1
  · exact absurd ‹_› herr.2
  · exact hctx

/-- an instruction the run has stepped over satisfies the premises of `bcStep_sound` -/
theorem bcStep_next (R : Realised prog e blockIns pc0 k st valOf) (S : Sound A γ blockIns valOf ic key v) {j : Nat}
    (hj : j < k) (fuel : Nat) (ctx : D) (hctx : γ ctx v) :
    γ (bcStep A ic (constructAst blockIns) key fuel ctx (blockIns[j]!, j)) v := by
  have hjl : j < blockIns.length := Nat.lt_of_lt_of_le hj R.run.len
  -- the machine does not step over a `return` or an `err`
  have stuck : ∀ {op}, (blockIns[j]!).op = op → (op = .ret ∨ op = .err ∨ op = .customErr) → False := by
    intro op hop h
    obtain ⟨_, _, _, _, hsem, _, _⟩ := R.sem hj hop
    rcases h with rfl | rfl | rfl <;> cases hsem
  refine bcStep_sound R S (Nat.le_of_lt hj) hjl ?_ ⟨fun h => stuck h (.inr (.inl rfl)), fun h => stuck h (.inr (.inr rfl))⟩
    (fun _ h => (stuck h (.inl rfl)).elim) fuel ctx hctx
  rintro (hop | hop)
  · obtain ⟨_, _, _, _, hsem, hag, _⟩ := R.sem hj hop
    cases hsem with
    | assert n hn => exact ⟨n, hn, hag⟩
  · exact (stuck hop (.inl rfl)).elim

/-- the `return` on which the machine approves satisfies the premises of `bcStep_sound` -/
theorem bcStep_accept (R : Realised prog e blockIns pc0 k st valOf) (S : Sound A γ blockIns valOf ic key v)
    (hsim : VSim valOf (symRun blockIns k) (st k).stack) (hk : k < blockIns.length) (hop : (blockIns[k]!).op = .ret)
    (hi : prog[(st k).pc]? = some (blockIns[k]!)) (hacc : step prog e (st k) = .accept)
    (hnz : ∀ q, condArg (constructAst blockIns) k = some q →
      intPush ic ((constructAst blockIns).opOf q) ≠ some (some (.lit 0)))
    (fuel : Nat) (ctx : D) (hctx : γ ctx v) :
    γ (bcStep A ic (constructAst blockIns) key fuel ctx (blockIns[k]!, k)) v := by
  obtain ⟨r, n, hst, hn⟩ := StackEffect.step_ret_accept prog e _ _ hi hop hacc
  have hpops : (blockIns[k]!).op.pops = 1 := by rw [hop]; rfl
  have hag : Forall₂ (Agree valOf) (argsAt blockIns k) _ :=
    (vsim_step k hsim (by rw [hpops, hst, List.length_append]; exact Nat.le_add_left _ _)).1
  rw [hpops, hst, List.length_append, List.length_singleton, Nat.add_sub_cancel, List.drop_left] at hag
  exact bcStep_sound R S (Nat.le_refl k) hk (fun _ => ⟨n, hn, hag⟩) ⟨hop ▸ nofun, hop ▸ nofun⟩
    (fun q _ => hnz q) fuel ctx hctx

theorem exitOp_last {b : FBlock} {op : Op} (h : b.exitOp = some op) : (b.ins[b.ins.length - 1]!).op = op := by
  obtain ⟨i, hi, rfl⟩ := Option.map_eq_some_iff.mp h
  rw [List.getElem!_eq_getElem?_getD, ← List.getLast?_eq_getElem?, hi]
  rfl

/-- the block constraint admits the governed value when the run has stepped over the first `k` instructions of the block and
    the loop keeps the value at the others -/
theorem blockConstraint_sound {b : FBlock} (R : Realised prog e b.ins pc0 k st valOf) (S : Sound A γ b.ins valOf ic key v)
    (hrest : ∀ j, k ≤ j → j < b.ins.length → ∀ ctx, γ ctx v →
      γ (bcStep A ic (constructAst b.ins) key (b.ins.length + 1) ctx (b.ins[j]!, j)) v) :
    γ (blockConstraint A ic b key) v := by
  rw [blockConstraint_eq]
  refine List.foldlRecOn (motive := (γ · v)) _ _ S.univ fun ctx hctx x hx => ?_
  -- `x` is instruction `x.2` of the block, paired with its position
  obtain ⟨hjl, hget⟩ := List.getElem?_eq_some_iff.mp (List.mem_zipIdx_iff_getElem?.mp hx)
  rw [show x = (b.ins[x.2]!, x.2) by rw [getElem!_pos b.ins x.2 hjl, hget]]
  by_cases hj : x.2 < k
  · exact bcStep_next R S hj _ ctx hctx
  · exact hrest x.2 (Nat.le_of_not_lt hj) hjl ctx hctx

/-- the edge constraint of a `bz` (`isBz`) / `bnz` that popped `n` admits the governed value when `succ` is the fall-through
    successor only if the branch fell through, and the jump successor only if it jumped -/
theorem branchSide_sound (R : Realised prog e blockIns pc0 k st valOf) (S : Sound A γ blockIns valOf ic key v) {j : Nat}
    (hj : j ≤ k) (hjl : j < blockIns.length) {n : Nat} (hag : Forall₂ (Agree valOf) (argsAt blockIns j) [.int n]) (fuel : Nat)
    (edges : Option Nat × Option Nat) (succ : Nat) (isBz : Bool) (hfall : edges.1 = some succ → isBz = (n != 0))
    (hjump : edges.1 ≠ some succ → edges.2 = some succ → isBz = (n == 0)) :
    γ (branchSide A ic (constructAst blockIns) key fuel j edges succ isBz) v := by
  unfold branchSide
  split
  · exact S.univ
  · obtain ⟨htrue, hfalse⟩ := cond_sound R S hj hjl hag ‹_› fuel
    -- (`split` on the outer `if` tries to rewrite the inner ones: slow)
    by_cases hd : edges.1 = some succ
    · rw [if_pos (beq_iff_eq.mpr hd)]
      obtain rfl := hfall hd
      cases n
      · exact hfalse rfl
      · exact htrue (Nat.succ_ne_zero _)
    · rw [if_neg (mt eq_of_beq hd)]
      by_cases hj' : edges.2 = some succ
      · rw [if_pos (beq_iff_eq.mpr hj')]
        obtain rfl := hjump hd hj'
        cases n
        · exact hfalse rfl
        · exact htrue (Nat.succ_ne_zero _)
      · rw [if_neg (mt eq_of_beq hj')]
        exact S.univ

end Tealer.BlockConstraint
