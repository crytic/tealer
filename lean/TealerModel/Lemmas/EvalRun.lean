/-
  The truth value `Asserted.Eval` assigns to a condition of the stack AST is the truth value the concrete run computes:
  with the leaves read as "the value the leaf instruction pushed is non-zero", the `!`, `&&`, `||` structure above them
  evaluates, in the AST, to exactly what the AVM pushes.
-/
import TealerModel.Lemmas.RunValues
import TealerModel.Lemmas.Asserted
namespace Tealer.EvalRun
open Tealer.Avm Tealer.OperandValues Tealer.Asserted List

def truthy : Val → Bool
  | .int n => n != 0
  | .bytes _ => true

theorem dedicated_pushes_le_one (op : Op) (h : ∀ n a b, op ≠ .other n a b) : op.pushes ≤ 1 := by
  cases op
  case other n a b => exact absurd rfl (h n a b)
  -- the count is the literal 0 or 1
  all_goals exact Nat.le_of_ble_eq_true rfl

theorem truthy_b2n (b : Bool) : truthy (b2n b) = b := by
  cases b <;> rfl

/-- one operand of a logical instruction: it denotes (in the sense of `Eval`) the truth of the integer really popped -/
theorem operand_eval (blockIns : List Ins) (valOf : Nat × Nat → Val) (p k : Nat) (hpk : p ≤ k)
    (hded : ∀ j, j < k → ∀ n a b, (blockIns[j]!).op ≠ .other n a b)
    (ih : ∀ q, q < p → (blockIns[q]!).op.pushes = 1 →
      Eval (constructAst blockIns) (fun p => truthy (valOf (p, 0))) (some (q, 0)) (truthy (valOf (q, 0))))
    (c : Ref) (hc : c ∈ argsAt blockIns p) (x : Nat) (hag : Agree valOf c (.int x)) :
    Eval (constructAst blockIns) (fun p => truthy (valOf (p, 0))) c (x != 0) := by
  cases c with
  | none => exact Eval.unknown _
  | some qo =>
    obtain ⟨q, o⟩ := qo
    obtain ⟨hq, ho⟩ := argsAt_cells blockIns p _ hc q o rfl
    have hle := dedicated_pushes_le_one (blockIns[q]!).op (hded q (Nat.lt_of_lt_of_le hq hpk))
    obtain rfl : o = 0 := Nat.lt_one_iff.mp (Nat.lt_of_lt_of_le ho hle)
    have := ih q hq (Nat.le_antisymm hle ho)
    rwa [← hag (q, 0) rfl] at this

theorem eval_of_realised {prog : List Ins} {e : Env} {blockIns : List Ins} {pc0 k : Nat} {st : Nat → State}
    {valOf : Nat × Nat → Val} (R : Realised prog e blockIns pc0 k st valOf) :
    ∀ p, p < k → (blockIns[p]!).op.pushes = 1 →
      Eval (constructAst blockIns) (fun p => truthy (valOf (p, 0))) (some (p, 0)) (truthy (valOf (p, 0))) := by
  intro p
  induction p using Nat.strongRecOn with
  | _ p ih =>
    intro hpk hpush
    have hpl : p < blockIns.length := Nat.lt_of_lt_of_le hpk R.run.len
    have hop_eq := opOf_constructAst blockIns p hpl
    have hargs_eq := argsOf_constructAst blockIns p hpl
    have operand := operand_eval blockIns valOf p k (Nat.le_of_lt hpk) R.run.dedicated
      fun q hq hpq => ih q hq (Nat.lt_trans hq hpk) hpq
    by_cases hnot : (blockIns[p]!).op = .not
    · obtain ⟨_, _, _, _, hsem, hag, hout⟩ := R.sem hpk hnot
      cases hsem with
      | not x =>
        obtain ⟨c, hc, hagc⟩ := forall₂_one hag
        rw [hout 0 _ rfl, truthy_b2n]
        have hev := operand c (by rw [hc]; exact List.mem_singleton.mpr rfl) x hagc
        cases c with
        | none => exact Eval.notUnknown p 0 _ (hop_eq.trans hnot) (by rw [hargs_eq, hc])
        | some qo =>
          have := Eval.not p 0 qo.1 qo.2 _ (hop_eq.trans hnot) (by rw [hargs_eq, hc]) hev
          rwa [bne, Bool.not_not] at this
    · by_cases hand : (blockIns[p]!).op = .and
      · obtain ⟨_, _, _, _, hsem, hag, hout⟩ := R.sem hpk hand
        cases hsem with
        | and x y =>
          obtain ⟨c1, c2, hc, h1, h2⟩ := forall₂_two hag
          rw [hout 0 _ rfl, truthy_b2n]
          exact Eval.and p 0 c1 c2 _ _ (hop_eq.trans hand) (by rw [hargs_eq, hc])
            (operand c1 (by rw [hc]; simp) x h1) (operand c2 (by rw [hc]; simp) y h2)
      · by_cases hor : (blockIns[p]!).op = .or
        · obtain ⟨_, _, _, _, hsem, hag, hout⟩ := R.sem hpk hor
          cases hsem with
          | or x y =>
            obtain ⟨c1, c2, hc, h1, h2⟩ := forall₂_two hag
            rw [hout 0 _ rfl, truthy_b2n]
            exact Eval.or p 0 c1 c2 _ _ (hop_eq.trans hor) (by rw [hargs_eq, hc])
              (operand c1 (by rw [hc]; simp) x h1) (operand c2 (by rw [hc]; simp) y h2)
        · exact Eval.leaf p 0 (hop_eq ▸ hand) (hop_eq ▸ hor) (hop_eq ▸ hnot)

/-- along a straight run there is an assignment of values to tags (`runVal`) which records the outputs, agrees with every
    reconstructed operand list, and under which the condition tree evaluates to what the AVM computes -/
theorem eval_realized (prog : List Ins) (e : Env) (blockIns : List Ins) (pc0 : Nat) (st : Nat → State) (k : Nat)
    (hrun : BlockRun prog e blockIns pc0 k st) :
    ∃ valOf : Nat × Nat → Val,
      (∀ j, j < k → ∀ i, i < (blockIns[j]!).op.pushes →
        (st (j + 1)).stack[(st j).stack.length - (blockIns[j]!).op.pops + i]? = some (valOf (j, i))) ∧
      (∀ j, j < k → Forall₂ (Agree valOf) (argsAt blockIns j)
        ((st j).stack.drop ((st j).stack.length - (blockIns[j]!).op.pops))) ∧
      VSim valOf (symRun blockIns k) (st k).stack ∧
      ∀ p, p < k → (blockIns[p]!).op.pushes = 1 →
        Eval (constructAst blockIns) (fun p => truthy (valOf (p, 0))) (some (p, 0)) (truthy (valOf (p, 0))) :=
  ⟨runVal blockIns st, hrun.realised.out, hrun.realised.args, hrun.vsim k (Nat.le_refl k), eval_of_realised hrun.realised⟩

end Tealer.EvalRun
