/-
  The third pass (create_bb) one instruction at a time: what one iteration does to the state (`createBBStep_shape`) and the
  state after `m` iterations (`bbAfter`; its invariant, and with it `CfgL.createBB_partition`, is in Lemmas/BlockShape.lean).  What
  `addEdge` does to each block.
-/
import TealerModel.Cfg
import TealerModel.Lemmas.ExceptL
namespace Tealer.CfgL

/-- all instruction positions placed so far, in order -/
def BBState.placed (s : BBState) : List Nat := s.done.flatten ++ s.cur

theorem close_placed (s : BBState) (e : Bool) : BBState.placed (s.close e) = BBState.placed s := by
  simp [BBState.placed, BBState.close]

/-- one iteration of create_bb: close the current block if it is not empty and a label comes, append the instruction, then
    close the block up to two times - at least once unless the instruction is the last one or is an ordinary instruction
    with a single successor -/
theorem createBBStep_shape (n : Nat) (s : BBState) (i : Ins) (k : Nat) (nx : List Nat) :
    ∃ s0, (s0 = s ∨ s0 = s.close true) ∧ (s0.cur ≠ [] → i.op.isLabel = false) ∧
      ∃ ws, (ws = [] → k + 1 = n ∨
          ((decide (nx.length > 1) || i.op.isCallsub) = false ∧ (nx.length == 0 || i.op.isB) = false)) ∧
        createBBStep n s (i, k, nx) = List.foldl BBState.close { s0 with cur := s0.cur ++ [k] } ws := by
  unfold createBBStep
  dsimp only
  generalize hs0 : (if (i.op.isLabel && !s.cur.isEmpty) = true then s.close true else s) = s0
  have h0 : (s0 = s ∨ s0 = s.close true) ∧ (s0.cur ≠ [] → i.op.isLabel = false) := by
    subst hs0
    split
    · exact ⟨.inr rfl, fun h => absurd rfl h⟩
    · next hc => exact ⟨.inl rfl, fun h => by simpa [h] using hc⟩
  refine ⟨s0, h0.1, h0.2, ?_⟩
  -- the three tests of the loop body as Boolean variables: every path is then closed by evaluation (`split` is slow here)
  have hlast : (k + 1 == n) = true → k + 1 = n := fun h => by simpa using h
  generalize (decide (nx.length > 1) || i.op.isCallsub) = many at *
  generalize (nx.length == 0 || i.op.isB) = stop at *
  generalize (k + 1 == n) = last at *
  cases many
  · cases stop
    · exact ⟨[], fun _ => .inr ⟨rfl, rfl⟩, rfl⟩
    · cases last
      · exact ⟨[false], nofun, rfl⟩
      · exact ⟨[], fun _ => .inl (hlast rfl), rfl⟩
  · cases last
    · cases stop
      · exact ⟨[true], nofun, rfl⟩
      · exact ⟨[true, false], nofun, rfl⟩
    · exact ⟨[], fun _ => .inl (hlast rfl), rfl⟩

/-- the state of create_bb after the first `m` instructions -/
def bbAfter (ins : List Ins) (nexts : List (List Nat)) : Nat → BBState
  | 0 => {}
  | m + 1 => createBBStep ins.length (bbAfter ins nexts m) (ins[m]!, m, nexts[m]!)

/-- create_bb runs over the instructions that have a successor list (in parse_teal: all of them) -/
theorem createBB_eq (ins : List Ins) (nexts : List (List Nat)) :
    createBB ins nexts = ((bbAfter ins nexts (min ins.length nexts.length)).done ++
      [(bbAfter ins nexts (min ins.length nexts.length)).cur], (bbAfter ins nexts (min ins.length nexts.length)).edges) := by
  have hxs : (ins.zipIdx).zipWith (fun (x : Ins × Nat) nx => (x.1, x.2, nx)) nexts =
      (List.range (min ins.length nexts.length)).map fun k => (ins[k]!, k, nexts[k]!) := by
    refine List.ext_getElem ?_ fun j hj _ => ?_
    · simp only [List.length_zipWith, List.length_zipIdx, List.length_map, List.length_range]
    · rw [List.length_zipWith, List.length_zipIdx] at hj
      rw [List.getElem_zipWith, List.getElem_zipIdx, List.getElem_map, List.getElem_range, Nat.zero_add,
        getElem!_pos ins j (Nat.lt_of_lt_of_le hj (Nat.min_le_left ..)),
        getElem!_pos nexts j (Nat.lt_of_lt_of_le hj (Nat.min_le_right ..))]
  have hfold (m : Nat) : (List.range m).foldl (fun s k => createBBStep ins.length s (ins[k]!, k, nexts[k]!)) {} =
      bbAfter ins nexts m := by
    induction m with
    | zero => rfl
    | succ m ih => rw [List.range_succ, List.foldl_append, ih]; rfl
  rw [createBB, hxs, List.foldl_map, hfold]

/-- first + second pass: one successor list per instruction -/
theorem insNext_length (ins : List Ins) (nexts : List (List Nat)) (h : insNext ins = .ok nexts) :
    nexts.length = ins.length := by
  unfold insNext at h
  simpa using (ExceptL.mapM_ok h).1

theorem createBB_nonempty (ins : List Ins) (nexts : List (List Nat)) : 0 < (createBB ins nexts).1.length := by
  simp [createBB]

theorem addEdge_length (bs : List RawBlock) (a b : Nat) : (addEdge bs a b).length = bs.length := by
  simp [addEdge]

/-- the model edits one record of a list by mapping over the list paired with its indices -/
theorem getElem!_map_zipIdx {α β : Type} [Inhabited α] [Inhabited β] (f : α × Nat → β) (l : List α) (x : Nat)
    (hx : x < l.length) : ((l.zipIdx).map f)[x]! = f (l[x]!, x) := by
  simp only [hx, getElem!_pos, List.length_map, List.length_zipIdx, List.getElem_map, List.getElem_zipIdx, Nat.zero_add]

theorem addEdge_get (bs : List RawBlock) (a b x : Nat) (hx : x < bs.length) :
    (addEdge bs a b)[x]! = { bs[x]! with
      next := if x == a then (bs[x]!).next ++ [b] else (bs[x]!).next
      prev := if x == b then (bs[x]!).prev ++ [a] else (bs[x]!).prev } := by
  rw [addEdge, getElem!_map_zipIdx _ bs x hx]
  dsimp only
  cases x == a <;> cases x == b <;> rfl

/-- adding an edge appends the successor at the end of the source's list and the predecessor at the end of
    the target's list: edge order = creation order (fall-through edges are created before jump edges) -/
theorem addEdge_next (bs : List RawBlock) (a b : Nat) (ha : a < bs.length) :
    ((addEdge bs a b)[a]!).next = (bs[a]!).next ++ [b] := by
  rw [addEdge_get bs a b a ha]
  exact if_pos (beq_iff_eq.mpr rfl)

theorem addEdge_prev (bs : List RawBlock) (a b : Nat) (hb : b < bs.length) :
    ((addEdge bs a b)[b]!).prev = (bs[b]!).prev ++ [a] := by
  rw [addEdge_get bs a b b hb]
  exact if_pos (beq_iff_eq.mpr rfl)

end Tealer.CfgL
