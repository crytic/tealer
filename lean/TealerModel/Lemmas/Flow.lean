/-
  Soundness of any solution of the forward (reach-out) and backward (live-out) equations of generic.py
  (model: `fwdF`, `bwdF`), for any value domain whose union / intersection over-approximate, along the block
  trace of a concrete accepting execution.  Both equations have one shape,
      x_b = ((init ⊔ ⨆ p ∈ ps, t p) ⊓ x_c) ⊓ bc        (the `x_c` factor only where a call site / return point matches),
  named here (`meetJoin`); what a domain's laws give for it is proved once per set of laws (`meetJoin_sound` and `_mono` here,
  `Exact.meetJoin_mem`).
-/
import TealerModel.Lemmas.Worklist
namespace Tealer.Flow

variable {D V : Type} [DecidableEq D]

/-- what the generic solver needs from a domain's concretisation -/
structure GammaLaws (A : Analysis D) (γ : D → V → Prop) : Prop where
  union_sound : ∀ a b v, γ a v ∨ γ b v → γ (A.dom.union a b) v
  inter_sound : ∀ a b v, γ a v → γ b v → γ (A.dom.inter a b) v

variable {A : Analysis D} {γ : D → V → Prop}

theorem gamma_of_exact {mem : D → V → Prop} (hu : ∀ a b v, mem (A.dom.union a b) v ↔ mem a v ∨ mem b v)
    (hi : ∀ a b v, mem (A.dom.inter a b) v ↔ mem a v ∧ mem b v) : GammaLaws A mem :=
  ⟨fun a b v h => (hu a b v).mpr h, fun a b v ha hb => (hi a b v).mpr ⟨ha, hb⟩⟩

/-- the right-hand side of a block's equation: `ps` the neighbours read, `t p` the term neighbour `p` contributes,
    `o` the matching call site / return point (if any) and `x` the current values -/
def meetJoin (A : Analysis D) (init : D) (ps : List Nat) (t : Nat → D) (o : Option Nat) (x : Nat → D) (bc : D) : D :=
  let r0 := ps.foldl (fun acc p => A.dom.union acc (t p)) init
  A.dom.inter (match o with | some c => A.dom.inter r0 (x c) | none => r0) bc

section
variable {init : D} {ps : List Nat} {t t' : Nat → D} {o : Option Nat} {x x' : Nat → D} {bc : D}

/-- the right-hand side respects every reflexive relation on the values it reads that union and intersection respect:
    an order (monotonicity, `Confluence.MonoLaws`), or equality (it reads nothing else) -/
theorem meetJoin_mono {le : D → D → Prop} (hrefl : ∀ a, le a a)
    (hunion : ∀ a a' b b', le a a' → le b b' → le (A.dom.union a b) (A.dom.union a' b'))
    (hinter : ∀ a a' b b', le a a' → le b b' → le (A.dom.inter a b) (A.dom.inter a' b'))
    (ht : ∀ p ∈ ps, le (t p) (t' p)) (hx : ∀ c, o = some c → le (x c) (x' c)) :
    le (meetJoin A init ps t o x bc) (meetJoin A init ps t' o x' bc) := by
  have hfold : ∀ i i', le i i' →
      le (ps.foldl (fun acc p => A.dom.union acc (t p)) i) (ps.foldl (fun acc p => A.dom.union acc (t' p)) i') := by
    induction ps with
    | nil => exact fun _ _ h => h
    | cons p ps ih =>
      exact fun _ _ h => ih (fun q hq => ht q (List.mem_cons_of_mem _ hq)) _ _ (hunion _ _ _ _ h (ht p List.mem_cons_self))
  unfold meetJoin
  refine hinter _ _ _ _ ?_ (hrefl _)
  cases o with
  | none => exact hfold _ _ (hrefl _)
  | some c => exact hinter _ _ _ _ (hfold _ _ (hrefl _)) (hx c rfl)

theorem meetJoin_congr (ht : ∀ p ∈ ps, t p = t' p) (hx : ∀ c, o = some c → x c = x' c) :
    meetJoin A init ps t o x bc = meetJoin A init ps t' o x' bc :=
  meetJoin_mono (fun _ => rfl) (fun _ _ _ _ h h' => h ▸ h' ▸ rfl) (fun _ _ _ _ h h' => h ▸ h' ▸ rfl) ht hx

theorem foldl_union_sound (L : GammaLaws A γ) (ps : List Nat) (t : Nat → D) (init : D) (v : V)
    (h : γ init v ∨ ∃ p ∈ ps, γ (t p) v) : γ (ps.foldl (fun acc p => A.dom.union acc (t p)) init) v := by
  induction ps generalizing init with
  | nil => simpa using h
  | cons q ps ih =>
    simp only [List.mem_cons, exists_eq_or_imp, ← or_assoc] at h
    exact ih _ (h.imp_left (L.union_sound _ _ _))

theorem meetJoin_sound (L : GammaLaws A γ) {v : V} (h0 : γ init v ∨ ∃ p ∈ ps, γ (t p) v) (hx : ∀ c, o = some c → γ (x c) v)
    (hbc : γ bc v) : γ (meetJoin A init ps t o x bc) v := by
  unfold meetJoin
  refine L.inter_sound _ _ _ ?_ hbc
  cases o with
  | none => exact foldl_union_sound L ps t init v h0
  | some c => exact L.inter_sound _ _ _ (foldl_union_sound L ps t init v h0) (hx c rfl)

end

theorem fwdF_eq (A : Analysis D) (g : Graph) (univ : D) (bc : Nat → D) (pc : Nat → Nat → D) (cur : List (Nat × D)) (b : Nat) :
    fwdF A g univ bc pc cur b =
      meetJoin A (if b == g.entry then univ else A.dom.null) (g.prevG b)
        (fun p => A.dom.inter (getMap cur p A.dom.null) (pc b p)) (g.callsubOf b) (fun k => getMap cur k A.dom.null) (bc b) := rfl

/-- the return point a call site reads: only when the callee can return -/
def retRead (g : Graph) (b : Nat) : Option Nat := if g.calleeHasRetsub b then g.retPointOf b else none

theorem retRead_eq_some {g : Graph} {b r : Nat} :
    retRead g b = some r ↔ g.retPointOf b = some r ∧ g.calleeHasRetsub b = true := by
  unfold retRead; split <;> simp [*]

theorem bwdF_eq (A : Analysis D) (g : Graph) (bc : Nat → D) (cur : List (Nat × D)) (b : Nat) :
    bwdF A g bc cur b = if g.isLeaf b then getMap cur b A.dom.null else
      meetJoin A A.dom.null (g.nextG b) (fun n => getMap cur n A.dom.null) (retRead g b)
        (fun k => getMap cur k A.dom.null) (bc b) := by
  unfold bwdF meetJoin retRead
  cases g.retPointOf b <;> cases g.calleeHasRetsub b <;> rfl

/-- facts about the block trace of a concrete accepting execution that forward soundness uses -/
structure FwdTrace (g : Graph) (γ : D → V → Prop) (univ : D) (bc : Nat → D) (pc : Nat → Nat → D)
    (v : V) (tr : List Nat) : Prop where
  starts : tr.head? = some g.entry
  univOk : γ univ v
  edges : ∀ i, i + 1 < tr.length → tr[i]! ∈ g.prevG tr[i+1]!
  blockOk : ∀ b ∈ tr, γ (bc b) v
  edgeOk : ∀ i, i + 1 < tr.length → γ (pc tr[i+1]! tr[i]!) v
  /-- a return point is only reached after its call site -/
  matched : ∀ i, i < tr.length → ∀ c, g.callsubOf tr[i]! = some c → ∃ j, j < i ∧ tr[j]! = c

/-- every solution of the reach-out equations admits the concrete value at every block of the trace -/
theorem forward_sound (L : GammaLaws A γ) (g : Graph) (univ : D) (bc : Nat → D) (pc : Nat → Nat → D)
    (rout : List (Nat × D)) (v : V) (tr : List Nat) (ht : FwdTrace g γ univ bc pc v tr)
    (hsol : ∀ b ∈ tr, getMap rout b A.dom.null = fwdF A g univ bc pc rout b) :
    ∀ i, i < tr.length → γ (getMap rout tr[i]! A.dom.null) v := by
  intro i
  induction i using Nat.strongRecOn with
  | _ i ih =>
    intro hi
    have hmem : tr[i]! ∈ tr := getElem!_pos tr i hi ▸ List.getElem_mem hi
    rw [hsol _ hmem, fwdF_eq]
    refine meetJoin_sound L ?_ ?_ (ht.blockOk _ hmem)
    · cases i with
      | zero =>
        have h0 : tr[0]! = g.entry := by rw [getElem!_def, ← List.head?_eq_getElem?, ht.starts]
        exact Or.inl (by simp [h0, ht.univOk])
      | succ k =>
        have hk : k < tr.length := Nat.lt_of_succ_lt hi
        exact Or.inr ⟨tr[k]!, ht.edges k hi, L.inter_sound _ _ _ (ih k (Nat.lt_succ_self k) hk) (ht.edgeOk k hi)⟩
    · intro c hc
      obtain ⟨j, hj, hjc⟩ := ht.matched i hi c hc
      exact hjc ▸ ih j hj (Nat.lt_trans hj hi)

/-- facts about the trace that backward soundness uses -/
structure BwdTrace (g : Graph) (γ : D → V → Prop) (ctx1 : Nat → D) (v : V) (tr : List Nat) : Prop where
  nonempty : tr ≠ []
  lastLeaf : g.isLeaf tr[tr.length - 1]! = true
  interior : ∀ i, i + 1 < tr.length → g.isLeaf tr[i]! = false
  edges : ∀ i, i + 1 < tr.length → tr[i+1]! ∈ g.nextG tr[i]!
  ctxOk : ∀ b ∈ tr, γ (ctx1 b) v
  /-- a call whose callee can return, made from a block with a return point, does return in this execution -/
  returns : ∀ i, i < tr.length → ∀ r, g.retPointOf tr[i]! = some r → g.calleeHasRetsub tr[i]! = true →
    ∃ j, i < j ∧ j < tr.length ∧ tr[j]! = r

/-- every solution of the live-out equations (with leaf values = the forward solution) admits the concrete
    value at every block of an accepting trace -/
theorem backward_sound (L : GammaLaws A γ) (g : Graph) (ctx1 : Nat → D) (lout : List (Nat × D))
    (v : V) (tr : List Nat) (ht : BwdTrace g γ ctx1 v tr)
    (hleaf : ∀ b ∈ tr, g.isLeaf b = true → getMap lout b A.dom.null = ctx1 b)
    (hsol : ∀ b ∈ tr, getMap lout b A.dom.null = bwdF A g ctx1 lout b) :
    ∀ i, i < tr.length → γ (getMap lout tr[i]! A.dom.null) v := by
  -- induction on a bound `n` for the distance from the end
  have key : ∀ n i, i < tr.length → tr.length ≤ i + n → γ (getMap lout tr[i]! A.dom.null) v := by
    intro n
    induction n with
    | zero => intro i hi hn; exact absurd hi (Nat.not_lt.mpr hn)
    | succ n ih =>
      intro i hi hn
      have hmem : tr[i]! ∈ tr := getElem!_pos tr i hi ▸ List.getElem_mem hi
      have hlater : ∀ j, i < j → tr.length ≤ j + n := fun j hij =>
        Nat.le_trans hn (Nat.succ_add_eq_add_succ i n ▸ Nat.add_le_add_right hij n)
      by_cases hi1 : i + 1 < tr.length
      · rw [hsol _ hmem, bwdF_eq, ht.interior i hi1, if_neg Bool.false_ne_true]
        refine meetJoin_sound L (Or.inr ⟨tr[i+1]!, ht.edges i hi1, ih (i + 1) hi1 (hlater _ (Nat.lt_succ_self i))⟩) ?_
          (ht.ctxOk _ hmem)
        intro r hr
        obtain ⟨hr, hc⟩ := retRead_eq_some.mp hr
        obtain ⟨j, hij, hj, hjr⟩ := ht.returns i hi r hr hc
        exact hjr ▸ ih j hj (hlater j hij)
      · have : i = tr.length - 1 := Nat.eq_sub_of_add_eq (Nat.le_antisymm hi (Nat.not_lt.mp hi1))
        subst this
        rw [hleaf _ hmem ht.lastLeaf]
        exact ht.ctxOk _ hmem
  exact fun i hi => key tr.length i hi (Nat.le_add_left _ _)

end Tealer.Flow
