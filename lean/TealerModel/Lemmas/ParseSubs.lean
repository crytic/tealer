/-
  parse_teal as a whole: what an accepted `parseTeal` computed on the way (`Parsed`, `parseTeal_inv`: successor lists, the
  graph of passes 3-4, the record of every subroutine, pruning), so that no theorem about the result unfolds `parseTeal` or
  takes its loops apart again; before it, what the call-site tables of `parse_teal` list (`callPositions`).
-/
import TealerModel.Lemmas.CfgWF
namespace Tealer.ParseSubs

export Tealer.CfgWF (graphOf)

/-- the record `parse_teal` fills in for a subroutine, given its entry, its blocks and its retained calling blocks -/
def subOf (ins : List Ins) (bs : List RawBlock) (name : String) (entry : Nat) (bl callers : List Nat) : Sub :=
  { name, entry, blocks := bl,
    exits := bl.filter fun b => (bs[b]!).next.length == 0 || exitOp ins (bs[b]!) == some .retsub,
    callers,
    retPoints := callers.filterMap fun c => if (bs[c]!).next.length == 1 then (bs[c]!).next.head? else none }

theorem mem_callsubLabels {ins : List Ins} {l : String} : l ∈ callsubLabels ins ↔ ∃ i ∈ ins, i.op = .callsub l := by
  unfold callsubLabels
  rw [List.mem_eraseDups, List.mem_filterMap]
  refine exists_congr fun i => and_congr_right fun _ => ?_
  split
  · next l' h => simp [h]
  · next h => simpa using h l

def callPositions (ins : List Ins) (name : String) : List Nat :=
  (ins.zipIdx).filterMap fun (i, k) => if i.op == .callsub name then some k else none

theorem mem_callPositions (ins : List Ins) (name : String) (k : Nat) :
    k ∈ callPositions ins name ↔ ∃ i, ins[k]? = some i ∧ i.op = .callsub name := by
  unfold callPositions
  simp only [List.mem_filterMap, List.mem_zipIdx_iff_getElem?, Prod.exists]
  constructor
  · rintro ⟨i, k', hi, h⟩
    split at h <;> cases h
    exact ⟨i, hi, eq_of_beq ‹_›⟩
  · rintro ⟨i, hi, hop⟩
    exact ⟨i, k, hi, by simp [hop]⟩

theorem find_callsubTable (ins : List Ins) (name : String) :
    (((callsubTable ins).find? (·.1 == name)).map (·.2)).getD [] =
      (if name ∈ callsubLabels ins then callPositions ins name else []) := by
  unfold callsubTable
  induction callsubLabels ins with
  | nil => rfl
  | cons l ls ih =>
    rw [List.map_cons, List.find?_cons]
    by_cases hl : l = name
    · subst hl; simp [callPositions]
    · simp only [beq_false_of_ne hl, ih, List.mem_cons, Ne.symm hl, false_or]

/-- what an accepted `parseTeal ins = .ok t` computed on the way: the successor lists `nexts`, the graph `bs` of passes 3-4,
    the list `reach` of the blocks that subroutine discovery visited (in the order `subroutines ++ main`) and the block list
    `bsP` after pruning -/
structure Parsed (ins : List Ins) (t : Teal) (nexts : List (List Nat)) (bs : List RawBlock) (reach : List Nat)
    (bsP : List RawBlock) : Prop where
  nexts_ok : insNext ins = .ok nexts
  graph_ok : graphOf ins nexts = .ok bs
  sub_rec : ∀ s ∈ t.subs, ∃ name li eb cblocks, name ∈ callsubLabels ins ∧ lookupLabel (labelTable ins) name = .ok li ∧
    blockOfIns (createBB ins nexts).1 li = .ok eb ∧
    (callPositions ins name).mapM (blockOfIns (createBB ins nexts).1) = .ok cblocks ∧
    s = subOf ins bs name eb (identifyBlocks bs eb) (cblocks.filter reach.contains)
  sub_of_label : ∀ l ∈ callsubLabels ins, ∃ s ∈ t.subs, s.name = l
  main_rec : t.main = subOf ins bs mainName 0 (identifyBlocks bs 0) []
  live_eq : t.live = (List.range bs.length).filter reach.contains
  pruned : ((List.range bs.length).filter fun b => !reach.contains b).foldlM pruneOne bs = .ok bsP
  length_eq : t.allBlocks.length = bsP.length
  block_get : ∀ x, x < bsP.length → (t.allBlocks[x]!).next = (bsP[x]!).next ∧ (t.allBlocks[x]!).prev = (bsP[x]!).prev

theorem parseTeal_inv (ins : List Ins) (t : Teal) (h : parseTeal ins = .ok t) :
    ∃ nexts bs reach bsP, Parsed ins t nexts bs reach bsP := by
  unfold parseTeal at h
  by_cases hc : ins.isEmpty = true
  · rw [if_pos hc] at h; cases h
  rw [if_neg hc] at h
  -- one `bind_ok` per statement of `parseTeal` that can raise (`simp` over the whole body is many times dearer)
  obtain ⟨nexts, hn, h⟩ := ExceptL.bind_ok h
  refine ⟨nexts, ?_⟩
  rw [← Prod.eta (createBB ins nexts)] at h
  obtain ⟨bs, hbs, h1⟩ := ExceptL.bind_ok h
  obtain ⟨sb, hsb, h2⟩ := ExceptL.bind_ok h1
  obtain ⟨subs, hsubs, h3⟩ := ExceptL.bind_ok h2
  obtain ⟨bsP, hP, h4⟩ := ExceptL.bind_ok h3
  obtain ⟨⟨nextsP, prevsP⟩, -, h5⟩ := ExceptL.bind_ok h4
  cases h5
  clear h h1 h2 h3 h4
  refine ⟨bs, _, bsP, {
    nexts_ok := hn, graph_ok := hbs, main_rec := rfl, live_eq := rfl, pruned := hP,
    sub_rec := fun s hs => ?_, sub_of_label := fun l hl => ?_, length_eq := ?_, block_get := fun x hx => ?_ }⟩
  · -- a subroutine record comes from an entry of the second loop, which comes from a callsub label of the first
    obtain ⟨x, hx, hfx⟩ := ExceptL.mapM_mem_rev hsubs hs
    obtain ⟨cblocks, hcb, hfx⟩ := ExceptL.bind_ok hfx
    obtain ⟨c, hc, hfc⟩ := ExceptL.mapM_mem_rev hsb hx
    obtain ⟨li, hli, hfc⟩ := ExceptL.bind_ok hfc
    obtain ⟨eb, heb, hfc⟩ := ExceptL.bind_ok hfc
    obtain ⟨l, hl, rfl⟩ := List.mem_map.mp hc
    cases hfc
    cases hfx
    rw [find_callsubTable, if_pos hl] at hcb
    exact ⟨l, li, eb, cblocks, hl, hli, heb, hcb, rfl⟩
  · obtain ⟨x, hx, hfx⟩ := ExceptL.mapM_mem hsb (List.mem_map.mpr ⟨l, hl, rfl⟩)
    obtain ⟨li, -, hfx⟩ := ExceptL.bind_ok hfx
    obtain ⟨eb, -, hfx⟩ := ExceptL.bind_ok hfx
    cases hfx
    obtain ⟨s, hs, hfs⟩ := ExceptL.mapM_mem hsubs hx
    obtain ⟨cblocks, -, hfs⟩ := ExceptL.bind_ok hfs
    cases hfs
    exact ⟨_, hs, rfl⟩
  · rw [List.length_map, List.length_zipIdx]
  · rw [CfgL.getElem!_map_zipIdx _ bsP x hx]
    exact ⟨rfl, rfl⟩

end Tealer.ParseSubs
