/-
  The declared stack effects (tealer's stack_pop_size / stack_push_size, model: Op.pops / Op.pushes) are the effects the
  concrete AVM semantics has: a successful step of a dedicated opcode of the fragment removes exactly `pops` values from
  the top of the stack, leaves everything below untouched and pushes exactly `pushes` values.
-/
import TealerModel.Avm
namespace Tealer.StackEffect
open Tealer.Avm

theorem pop1_spec {st r : List Val} {v : Val} (h : pop1 st = some (v, r)) : st = r ++ [v] := by
  unfold pop1 at h
  split at h
  · cases h
    obtain ⟨ys, rfl⟩ := List.getLast?_eq_some_iff.mp ‹_›
    rw [List.dropLast_concat]
  · cases h

theorem popInt_spec {st r : List Val} {n : Nat} (h : popInt st = some (n, r)) : st = r ++ [.int n] := by
  unfold popInt at h
  split at h
  · cases h
    exact pop1_spec ‹_›
  · cases h

theorem two_pops {st r1 r : List Val} {x y : Val} (h1 : st = r1 ++ [y]) (h2 : r1 = r ++ [x]) : st = r ++ [x, y] := by
  rw [h1, h2, List.append_assoc]; rfl

/-- the shape of a stack effect: `pops` values removed from the top, the rest kept, `pushes` values added -/
def Effect (st st' : List Val) (pops pushes : Nat) : Prop :=
  pops ≤ st.length ∧ ∃ pushed : List Val, pushed.length = pushes ∧ st' = st.take (st.length - pops) ++ pushed

theorem effect_of_append (r top pushed : List Val) : Effect (r ++ top) (r ++ pushed) top.length pushed.length := by
  refine ⟨by simp, pushed, rfl, ?_⟩
  simp

/-- what a successful step of a dedicated opcode removes from the top of the stack and what it puts there (what it does to the
    program counter and the call stack: `StepEdge.Ctl`).  What a lemma needs to know of a particular opcode it reads off this
    relation by `cases` (after `step_sem`), not by unfolding `step`. -/
inductive OpSem (e : Env) (s : State) : Op → List Val → List Val → Prop
  | pragma v : OpSem e s (.pragma v) [] []
  | label l : OpSem e s (.label l) [] []
  | bytecblock : OpSem e s .bytecblock [] []
  | intcblock cs : OpSem e s (.intcblock cs) [] []
  | b l : OpSem e s (.b l) [] []
  | callsub l : OpSem e s (.callsub l) [] []
  | retsub : OpSem e s .retsub [] []
  | bz l n : OpSem e s (.bz l) [.int n] []
  | bnz l n : OpSem e s (.bnz l) [.int n] []
  | switch ls n : OpSem e s (.switch ls) [.int n] []
  | match_ ls popped : popped.length = ls.length + 1 → OpSem e s (.match_ ls) popped []
  | assert n : n ≠ 0 → OpSem e s .assert [.int n] []
  | int v n : intValOf v = some n → OpSem e s (.int v) [] [.int n]
  | pushint v n : intValOf v = some n → OpSem e s (.pushint v) [] [.int n]
  | intc k n : s.intcs[k]? = some n → OpSem e s (.intc k) [] [.int n]
  | addr a : OpSem e s (.addr a) [] [.bytes (if a == zeroAddressLiteral then zeroAddress else a)]
  | txn f v : e.field e.self f = some v → OpSem e s (.txn f) [] [v]
  | gtxn k f v : e.field k f = some v → OpSem e s (.gtxn k f) [] [v]
  | gtxns f k v : e.field k f = some v → OpSem e s (.gtxns f) [.int k] [v]
  | global f : OpSem e s (.global f) [] [e.global f]
  | cmpInt c a b : OpSem e s (.cmp c) [.int a, .int b] [b2n (c.eval a b)]
  | cmpEq a b : OpSem e s (.cmp .eq) [.bytes a, .bytes b] [b2n (a == b)]
  | cmpNeq a b : OpSem e s (.cmp .neq) [.bytes a, .bytes b] [b2n (a != b)]
  | and x y : OpSem e s .and [.int x, .int y] [b2n (x != 0 && y != 0)]
  | or x y : OpSem e s .or [.int x, .int y] [b2n (x != 0 || y != 0)]
  | not x : OpSem e s .not [.int x] [b2n (x == 0)]
  | add x y : x + y ≤ MAXU64 → OpSem e s .add [.int x, .int y] [.int (x + y)]
  | sub x y : y ≤ x → OpSem e s .sub [.int x, .int y] [.int (x - y)]

theorem OpSem.lengths {e : Env} {s : State} {op : Op} {popped pushed : List Val} (h : OpSem e s op popped pushed) :
    popped.length = op.pops ∧ pushed.length = op.pushes := by
  induction h with
  | match_ ls popped hl => exact ⟨hl, rfl⟩
  | _ => exact ⟨rfl, rfl⟩

theorem step_sem (prog : List Ins) (e : Env) (s s' : State) (i : Ins) (hi : prog[s.pc]? = some i)
    (hno : ∀ name po pu, i.op ≠ .other name po pu) (hs : step prog e s = .next s') :
    ∃ r popped pushed, s.stack = r ++ popped ∧ s'.stack = r ++ pushed ∧ OpSem e s i.op popped pushed := by
  unfold step at hs
  -- (`zeta` and `whnf` are many times cheaper on a term of this size than `simp only` with the opcode's equation)
  conv at hs => zeta
  rw [hi] at hs
  conv at hs => lhs; whnf
  have nil := (List.append_nil s.stack).symm
  generalize i.op = op at hs hno ⊢
  cases op
  case other name po pu => exact absurd rfl (hno name po pu)
  all_goals with_reducible conv at hs => lhs; whnf
  -- opcodes grouped by what they do to the stack.  In each group: `split` the tests of `step`, drop (`cases hs`) the branches
  -- that stop, and in those that go on name the part of the stack that stays; `constructor` finds the opcode's rule of `OpSem`
  case pragma | label | bytecblock | intcblock | b | callsub | retsub =>
    repeat' split at hs
    all_goals cases hs
    exact ⟨_, _, _, nil, nil, by constructor⟩
  case addr | global =>
    cases hs
    exact ⟨_, _, _, nil, rfl, by constructor⟩
  case int | pushint | intc | txn | gtxn =>
    split at hs
    all_goals cases hs
    exact ⟨_, _, _, nil, rfl, by constructor; assumption⟩
  case bz | bnz | switch =>
    repeat' split at hs
    all_goals cases hs
    all_goals exact ⟨_, _, _, popInt_spec ‹_›, (List.append_nil _).symm, by constructor⟩
  case assert =>
    repeat' split at hs
    all_goals cases hs
    exact ⟨_, _, _, popInt_spec ‹_›, (List.append_nil _).symm, .assert _ (bne_iff_ne.mp ‹_›)⟩
  case match_ ls =>
    by_cases hlen : s.stack.length < ls.length + 1
    · rw [if_pos hlen] at hs
      cases hs
    · have hres : ∃ r popped pushed, s.stack = r ++ popped ∧
          s.stack.take (s.stack.length - 1 - ls.length) = r ++ pushed ∧ OpSem e s (.match_ ls) popped pushed :=
        ⟨_, _, _, (List.take_append_drop _ s.stack).symm, (List.append_nil _).symm, .match_ ls _ (by
          rw [List.length_drop, Nat.sub_sub, Nat.add_comm 1, Nat.sub_sub_self (Nat.le_of_not_lt hlen)])⟩
      rw [if_neg hlen] at hs
      repeat' split at hs
      all_goals cases hs
      all_goals exact hres
  case gtxns | not =>
    repeat' split at hs
    all_goals cases hs
    exact ⟨_, _, _, popInt_spec ‹_›, rfl, by constructor <;> assumption⟩
  case and | or =>
    -- (not `repeat'`: the pushed value has an `if` on the opcode)
    split at hs
    · split at hs
      all_goals cases hs
      exact ⟨_, _, _, two_pops (popInt_spec ‹_›) (popInt_spec ‹_›), rfl, by constructor⟩
    · cases hs
  case add | sub =>
    repeat' split at hs
    all_goals cases hs
    exact ⟨_, _, _, two_pops (popInt_spec ‹_›) (popInt_spec ‹_›), rfl, by constructor; assumption⟩
  case cmp =>
    repeat' split at hs
    all_goals cases hs
    all_goals exact ⟨_, _, _, two_pops (pop1_spec ‹_›) (pop1_spec ‹_›), rfl, by constructor⟩
  -- `err`, `return` and the unsupported group reads never step
  all_goals
    repeat' split at hs
  all_goals cases hs

/-- the machine approves at a `return` only with a non-zero integer on top of the stack -/
theorem step_ret_accept (prog : List Ins) (e : Env) (s : State) (i : Ins) (hi : prog[s.pc]? = some i) (hop : i.op = .ret)
    (hs : step prog e s = .accept) : ∃ r n, s.stack = r ++ [.int n] ∧ n ≠ 0 := by
  unfold step at hs
  simp only [hi, hop] at hs
  split at hs
  · rename_i n r hp
    split at hs
    · exact ⟨r, n, popInt_spec hp, bne_iff_ne.mp ‹_›⟩
    · cases hs
  · cases hs

/-- every dedicated opcode of the fragment has, in the concrete semantics, exactly its declared stack effect -/
theorem step_effect (prog : List Ins) (e : Env) (s s' : State) (i : Ins) (hi : prog[s.pc]? = some i)
    (hno : ∀ name po pu, i.op ≠ .other name po pu) (hs : step prog e s = .next s') :
    Effect s.stack s'.stack i.op.pops i.op.pushes := by
  obtain ⟨r, popped, pushed, h1, h2, hsem⟩ := step_sem prog e s s' i hi hno hs
  rw [h1, h2, ← hsem.lengths.1, ← hsem.lengths.2]
  exact effect_of_append r popped pushed

end Tealer.StackEffect
