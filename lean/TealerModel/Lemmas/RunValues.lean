/-
  The value equations of a straight run.  `Realised` gives, for a run of a block, the value `valOf (j, i)` every instruction
  pushed and the agreement of the reconstructed operand lists with what was popped.  Here that is turned, once per opcode, into
  an equation between `valOf` at an instruction and `valOf` at its reconstructed operands; the leaf theorems of the analyses
  (fee, group size, group index) are compositions of these equations.
-/
import TealerModel.Lemmas.OperandValues
namespace Tealer.OperandValues
open Tealer.Avm List

variable {prog : List Ins} {e : Env} {blockIns : List Ins} {pc0 k : Nat} {st : Nat → State} {valOf : Nat × Nat → Val}

theorem forall₂_one {α β : Type} {R : α → β → Prop} {l : List α} {b : β} (h : Forall₂ R l [b]) : ∃ a, l = [a] ∧ R a b := by
  cases h with
  | cons ha hnil =>
    cases hnil
    exact ⟨_, rfl, ha⟩

theorem forall₂_two {α β : Type} {R : α → β → Prop} {l : List α} {b1 b2 : β} (h : Forall₂ R l [b1, b2]) :
    ∃ a1 a2, l = [a1, a2] ∧ R a1 b1 ∧ R a2 b2 := by
  cases h with
  | cons h1 ht =>
    obtain ⟨a2, rfl, h2⟩ := forall₂_one ht
    exact ⟨_, a2, rfl, h1, h2⟩

theorem agree1 {q : Nat × Nat} {x : Val} (h : Forall₂ (Agree valOf) [some q] [x]) : x = valOf q := by
  cases h with
  | cons h1 _ => exact h1 q rfl

theorem agree2 {q1 q2 : Nat × Nat} {x y : Val} (h : Forall₂ (Agree valOf) [some q1, some q2] [x, y]) :
    x = valOf q1 ∧ y = valOf q2 := by
  cases h with
  | cons h1 ht => exact ⟨h1 q1 rfl, agree1 ht⟩

namespace Realised
variable (R : Realised prog e blockIns pc0 k st valOf) {p : Nat} (hp : p < k)
include R hp

/-- the stack AST, read with `valOf`, obeys the semantics at every node: what instruction `p` removed agrees with its
    reconstructed operands, what it put there is what `valOf` records for `p`, and the two are related as `OpSem` says -/
theorem sem {op : Op} (hop : (blockIns[p]!).op = op) :
    ∃ r popped pushed, (st p).stack = r ++ popped ∧ StackEffect.OpSem e (st p) op popped pushed ∧
      Forall₂ (Agree valOf) (argsAt blockIns p) popped ∧ ∀ i v, pushed[i]? = some v → valOf (p, i) = v := by
  obtain ⟨r, popped, pushed, hs, hs', hsem⟩ :=
    StackEffect.step_sem prog e _ _ _ (R.run.fetch hp) (R.run.dedicated p hp) (R.run.steps p hp)
  have e1 : (st p).stack.length - (blockIns[p]!).op.pops = r.length := by
    rw [hs, ← hsem.lengths.1, List.length_append, Nat.add_sub_cancel]
  refine ⟨r, popped, pushed, hs, hop ▸ hsem, ?_, fun i v hv => ?_⟩
  · have := R.args p hp
    rwa [e1, hs, List.drop_left] at this
  · have hi : i < (blockIns[p]!).op.pushes := hsem.lengths.2 ▸ (List.getElem?_eq_some_iff.mp hv).1
    have := R.out p hp i hi
    rw [e1, hs', List.getElem?_append_right (Nat.le_add_right _ _), Nat.add_sub_cancel_left, hv] at this
    exact (Option.some.inj this).symm

theorem val_txn {f : String} (hop : (blockIns[p]!).op = .txn f) : e.field e.self f = some (valOf (p, 0)) := by
  obtain ⟨_, _, _, _, hsem, _, hout⟩ := R.sem hp hop
  cases hsem with
  | txn _ v hv => exact hout 0 v rfl ▸ hv

theorem val_groupIndex (hop : (blockIns[p]!).op = .txn "GroupIndex") : valOf (p, 0) = .int e.self := by
  have h := R.val_txn hp hop
  unfold Env.field at h
  by_cases hge : e.self ≥ e.size
  · rw [if_pos hge] at h
    cases h
  · rw [if_neg hge, if_pos (beq_self_eq_true _)] at h
    exact (Option.some.inj h).symm

theorem val_int {n : Nat} (hop : (blockIns[p]!).op = .int (.lit n)) : valOf (p, 0) = .int n := by
  obtain ⟨_, _, _, _, hsem, _, hout⟩ := R.sem hp hop
  cases hsem with
  | int _ m hm =>
    simp only [intValOf] at hm
    split at hm
    · cases hm
      exact hout 0 _ rfl
    · cases hm

theorem val_global {f : String} (hop : (blockIns[p]!).op = .global f) : valOf (p, 0) = e.global f := by
  obtain ⟨_, _, _, _, hsem, _, hout⟩ := R.sem hp hop
  cases hsem with
  | global _ => exact hout 0 _ rfl

theorem val_gtxns {f : String} {q : Nat × Nat} {i : Nat} (hop : (blockIns[p]!).op = .gtxns f)
    (ha : argsAt blockIns p = [some q]) (hq : valOf q = .int i) : e.field i f = some (valOf (p, 0)) := by
  obtain ⟨_, _, _, _, hsem, hag, hout⟩ := R.sem hp hop
  cases hsem with
  | gtxns _ j v hv =>
    cases (agree1 (ha ▸ hag)).trans hq
    exact hout 0 v rfl ▸ hv

/-- a comparison whose second operand is an integer: the first is one too (the machine rejects mixed types) -/
theorem val_cmp {c : Cmp} {q1 q2 : Nat × Nat} {b : Nat} (hop : (blockIns[p]!).op = .cmp c)
    (ha : argsAt blockIns p = [some q1, some q2]) (h2 : valOf q2 = .int b) :
    ∃ a, valOf q1 = .int a ∧ valOf (p, 0) = b2n (c.eval a b) := by
  obtain ⟨_, _, _, _, hsem, hag, hout⟩ := R.sem hp hop
  cases hsem with
  | cmpInt _ a b' =>
    obtain ⟨g1, g2⟩ := agree2 (ha ▸ hag)
    cases g2.trans h2
    exact ⟨a, g1.symm, hout 0 _ rfl⟩
  | cmpEq a b' => cases (agree2 (ha ▸ hag)).2.trans h2
  | cmpNeq a b' => cases (agree2 (ha ▸ hag)).2.trans h2

theorem val_add {q1 q2 : Nat × Nat} {x y : Nat} (hop : (blockIns[p]!).op = .add)
    (ha : argsAt blockIns p = [some q1, some q2]) (h1 : valOf q1 = .int x) (h2 : valOf q2 = .int y) :
    valOf (p, 0) = .int (x + y) := by
  obtain ⟨_, _, _, _, hsem, hag, hout⟩ := R.sem hp hop
  cases hsem with
  | add x' y' _ =>
    obtain ⟨g1, g2⟩ := agree2 (ha ▸ hag)
    cases g1.trans h1
    cases g2.trans h2
    exact hout 0 _ rfl

/-- the machine rejects a subtraction below zero, so a run that gets past one has `y ≤ x` -/
theorem val_sub {q1 q2 : Nat × Nat} {x y : Nat} (hop : (blockIns[p]!).op = .sub)
    (ha : argsAt blockIns p = [some q1, some q2]) (h1 : valOf q1 = .int x) (h2 : valOf q2 = .int y) :
    y ≤ x ∧ valOf (p, 0) = .int (x - y) := by
  obtain ⟨_, _, _, _, hsem, hag, hout⟩ := R.sem hp hop
  cases hsem with
  | sub x' y' hle =>
    obtain ⟨g1, g2⟩ := agree2 (ha ▸ hag)
    cases g1.trans h1
    cases g2.trans h2
    exact ⟨hle, hout 0 _ rfl⟩

end Realised
end Tealer.OperandValues
