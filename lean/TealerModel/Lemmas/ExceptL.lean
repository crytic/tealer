/-
  Loops of the model that can raise (`Except`): what a `bind`, a `foldlM` and a `mapM` that returned have done.
-/
namespace Tealer.ExceptL

theorem bind_ok {ε α β : Type} {x : Except ε α} {f : α → Except ε β} {b : β} (h : x >>= f = .ok b) :
    ∃ a, x = .ok a ∧ f a = .ok b := by
  cases x with
  | error e => cases h
  | ok a => exact ⟨a, rfl, h⟩

/-- loop rule for a fold that can raise: if it returns, an invariant of the steps that returned - which may speak of the
    elements processed so far, all of them elements of the list - holds of the result -/
theorem foldlM_ind {ε α β : Type} {f : β → α → Except ε β} (P : List α → β → Prop) {l : List α} {b b' : β}
    (h : l.foldlM f b = .ok b') (h0 : P [] b)
    (hstep : ∀ pre a, (∀ x ∈ pre, x ∈ l) → a ∈ l → ∀ b b1, P pre b → f b a = .ok b1 → P (pre ++ [a]) b1) : P l b' := by
  induction l generalizing b P with
  | nil => cases h; exact h0
  | cons a l ih =>
    obtain ⟨b1, h1, h⟩ := bind_ok h
    -- the rest of the loop, with `a` in front of every prefix
    exact ih (fun pre => P (a :: pre)) h (hstep [] a nofun (List.mem_cons_self ..) b b1 h0 h1)
      fun pre x hpre hx => hstep (a :: pre) x
        (List.forall_mem_cons.mpr ⟨List.mem_cons_self .., fun y hy => List.mem_cons_of_mem _ (hpre y hy)⟩)
        (List.mem_cons_of_mem _ hx)

theorem mapM_ok {ε α β : Type} {f : α → Except ε β} {l : List α} {r : List β} (h : l.mapM f = .ok r) :
    r.length = l.length ∧ ∀ k (hk : k < l.length) (hk' : k < r.length), f l[k] = .ok r[k] := by
  induction l generalizing r with
  | nil => cases h; exact ⟨rfl, nofun⟩
  | cons a l ih =>
    rw [List.mapM_cons] at h
    obtain ⟨y, hy, h⟩ := bind_ok h
    obtain ⟨ys, hys, h⟩ := bind_ok h
    cases h
    refine ⟨congrArg (· + 1) (ih hys).1, fun k hk hk' => ?_⟩
    cases k with
    | zero => exact hy
    | succ k => exact (ih hys).2 k (Nat.lt_of_succ_lt_succ hk) (Nat.lt_of_succ_lt_succ hk')

theorem mapM_mem {ε α β : Type} {f : α → Except ε β} {l : List α} {r : List β} (h : l.mapM f = .ok r) {x : α}
    (hx : x ∈ l) : ∃ y ∈ r, f x = .ok y := by
  obtain ⟨k, hk, rfl⟩ := List.getElem_of_mem hx
  have hk' : k < r.length := (mapM_ok h).1 ▸ hk
  exact ⟨r[k], List.getElem_mem hk', (mapM_ok h).2 k hk hk'⟩

theorem mapM_mem_rev {ε α β : Type} {f : α → Except ε β} {l : List α} {r : List β} (h : l.mapM f = .ok r) {y : β}
    (hy : y ∈ r) : ∃ x ∈ l, f x = .ok y := by
  obtain ⟨k, hk', rfl⟩ := List.getElem_of_mem hy
  have hk : k < l.length := (mapM_ok h).1 ▸ hk'
  exact ⟨l[k], List.getElem_mem hk, (mapM_ok h).2 k hk hk'⟩

end Tealer.ExceptL
