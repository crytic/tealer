/-
  What the instruction-level soundness of the control-flow edges (`C04_step_along_edge`: every step of the concrete AVM semantics
  moves the program counter along a successor recorded by first_pass / second_pass, or is a call, a return, or the fall off the
  end of the program) is composed of: the label table of first_pass against the spec's label resolution (`labelPos_lookup`), the
  successor list of an instruction (`insNext_get`), and what a step does to the program counter and the call stack (`Ctl`, `step_ctl`).
-/
import TealerModel.Cfg
import TealerModel.Avm
import TealerModel.Lemmas.ExceptL
namespace Tealer.StepEdge
open Tealer.Avm

/-- the entry of the label table that first_pass makes for the instruction at a position -/
def labelEntry (x : Ins × Nat) : Option (String × Nat) :=
  match x.1.op with
  | .label l => some (l, x.2)
  | _ => none

theorem labelTable_eq (ins : List Ins) : labelTable ins = ins.zipIdx.filterMap labelEntry := rfl

theorem labelEntry_eq_some {x : Ins × Nat} {l : String} {k : Nat} :
    labelEntry x = some (l, k) ↔ x.1.op = .label l ∧ x.2 = k := by
  unfold labelEntry
  split
  · next l' h => simp [h]
  · next h => simpa using fun e => (h l e).elim

theorem lookupLabel_lt {ins : List Ins} {l : String} {p : Nat} (h : lookupLabel (labelTable ins) l = .ok p) :
    p < ins.length := by
  unfold lookupLabel at h
  split at h
  · next l' p' hf =>
    cases h
    rw [labelTable_eq] at hf
    obtain ⟨x, hx, hxp⟩ := List.mem_filterMap.mp (List.mem_reverse.mp (List.mem_of_find?_eq_some hf))
    have := List.mem_zipIdx hx
    have := (labelEntry_eq_some.mp hxp).2
    omega
  · cases h

theorem insNext_get (ins : List Ins) (nexts : List (List Nat)) (h : insNext ins = .ok nexts)
    (k : Nat) (i : Ins) (hi : ins[k]? = some i) :
    ∃ jumps, i.op.jumpLabels.mapM (lookupLabel (labelTable ins)) = .ok jumps ∧
      nexts[k]! = (if !i.op.noFallthrough && k + 1 < ins.length then [k + 1] else []) ++ jumps := by
  obtain ⟨hk, rfl⟩ := List.getElem?_eq_some_iff.mp hi
  unfold insNext at h
  have hk' : k < nexts.length := by rw [(ExceptL.mapM_ok h).1]; simpa using hk
  have hf := (ExceptL.mapM_ok h).2 k (by simpa using hk) hk'
  simp only [List.getElem_zipIdx, Nat.zero_add] at hf
  obtain ⟨jumps, hj, hf⟩ := ExceptL.bind_ok hf
  exact ⟨jumps, hj, (getElem!_pos nexts k hk').trans (Except.ok.inj hf).symm⟩

/-- the spec's label resolution (last definition wins) and the model's label table agree -/
theorem labelPos_lookup (prog : List Ins) (l : String) (p : Nat) :
    labelPos prog l = some p ↔ lookupLabel (labelTable prog) l = .ok p := by
  unfold labelPos lookupLabel
  rw [labelTable_eq, ← List.filterMap_reverse, List.find?_filterMap]
  -- both sides search the reversed program for the same instruction: the one that makes a table entry for `l`
  have hq : ∀ a, (labelEntry a).any (fun y => y.1 == l) = (a.1.op == .label l) := by
    intro a
    rw [Bool.eq_iff_iff, Option.any_eq_true]
    simp [labelEntry_eq_some]
  simp only [hq]
  cases hf : List.find? (fun x => x.1.op == .label l) prog.zipIdx.reverse with
  | none => simp
  | some a =>
    have ha : a.1.op = .label l := by simpa using List.find?_some hf
    simp [labelEntry, ha]

/-- the stack / scratch opcodes only advance: no jump, no call, no return -/
theorem stepOther_ctl (e : Env) (s s' : State) (name : String) (h : stepOther e s name = .next s') :
    s'.pc = s.pc + 1 ∧ s'.calls = s.calls := by
  revert h
  fun_cases stepOther e s name
  -- every path ends in a stop or in a next state written out
  all_goals intro h; cases h
  all_goals exact ⟨rfl, rfl⟩

/-- what a step that executes `op` does to the program counter and the call stack: it advances past an instruction that
    can fall through (a `callsub` has a default successor, its return point, but never advances to it), or jumps to one of
    the instruction's jump labels, or calls, or returns -/
inductive Ctl (prog : List Ins) (s s' : State) (op : Op) : Prop
  | adv : op.noFallthrough = false → op.isCallsub = false → s'.pc = s.pc + 1 → s'.calls = s.calls → Ctl prog s s' op
  | jump (l : String) : l ∈ op.jumpLabels → labelPos prog l = some s'.pc → s'.calls = s.calls → Ctl prog s s' op
  | call (l : String) : op = .callsub l → labelPos prog l = some s'.pc → s'.calls = s.calls ++ [s.pc + 1] → Ctl prog s s' op
  | ret : op = .retsub → s.calls.getLast? = some s'.pc → s'.calls = s.calls.dropLast → Ctl prog s s' op

theorem Ctl.of_callsub {prog : List Ins} {s s' : State} {l : String} (h : Ctl prog s s' (.callsub l)) :
    labelPos prog l = some s'.pc ∧ s'.calls = s.calls ++ [s.pc + 1] := by
  -- `h` is, in each of the other rules, a premise that fails for a `callsub`
  rcases h with ⟨-, h, -, -⟩ | ⟨_, h, -, -⟩ | ⟨_, h, hp, hc⟩ | ⟨h, -, -⟩ <;> cases h
  exact ⟨hp, hc⟩

theorem Ctl.of_retsub {prog : List Ins} {s s' : State} (h : Ctl prog s s' .retsub) :
    s.calls.getLast? = some s'.pc ∧ s'.calls = s.calls.dropLast := by
  rcases h with ⟨h, -, -, -⟩ | ⟨_, h, -, -⟩ | ⟨_, h, -, -⟩ | ⟨h, hp, hc⟩ <;> cases h
  exact ⟨hp, hc⟩

theorem step_ctl (prog : List Ins) (e : Env) (s s' : State) (hs : step prog e s = .next s') :
    ∃ i, prog[s.pc]? = some i ∧ Ctl prog s s' i.op := by
  unfold step at hs
  split at hs
  · -- past the end of the program the machine stops
    split at hs
    · split at hs <;> cases hs
    · cases hs
  · rename_i i hi
    refine ⟨i, hi, ?_⟩
    -- (on the whole term `simp only []` and `dsimp only` are many times dearer than `zeta` and, per opcode, `whnf`; only the `match`
    -- case, where `whnf` unfolds the search over the labels too far for `split`, pays for a `dsimp only`)
    conv at hs => zeta
    generalize i.op = op at hs ⊢
    cases op
    case other name po pu => exact .adv rfl rfl (stepOther_ctl e s s' name hs).1 (stepOther_ctl e s s' name hs).2
    -- in the conditional jumps, `split` leaves the branch that jumps first and the one that falls through second
    case match_ ls =>
      dsimp only at hs
      repeat' split at hs
      all_goals cases hs
      · exact .jump _ (List.of_mem_zip (List.mem_of_find?_eq_some ‹_›)).2 ‹_› rfl
      · exact .adv rfl rfl rfl rfl
    all_goals conv at hs => lhs; whnf
    case callsub l =>
      split at hs <;> cases hs
      exact .call l rfl ‹_› rfl
    case retsub =>
      split at hs <;> cases hs
      exact .ret rfl ‹_› rfl
    case b l =>
      split at hs <;> cases hs
      exact .jump l (List.mem_singleton_self l) ‹_› rfl
    case bz l | bnz l =>
      repeat' split at hs
      all_goals cases hs
      · exact .jump l (List.mem_singleton_self l) ‹_› rfl
      · exact .adv rfl rfl rfl rfl
    case switch ls =>
      repeat' split at hs
      all_goals cases hs
      · exact .jump _ (List.mem_of_getElem? ‹_›) ‹_› rfl
      · exact .adv rfl rfl rfl rfl
    -- every other opcode advances or stops
    all_goals
      repeat' split at hs
    all_goals cases hs
    all_goals exact .adv rfl rfl rfl rfl

theorem step_ctl_at {prog : List Ins} {e : Env} {s s' : State} {i : Ins} (hi : prog[s.pc]? = some i)
    (hs : step prog e s = .next s') : Ctl prog s s' i.op := by
  obtain ⟨i', hi', h⟩ := step_ctl prog e s s' hs
  cases hi.symm.trans hi'
  exact h

end Tealer.StepEdge
