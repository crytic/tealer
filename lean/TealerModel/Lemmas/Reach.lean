/-
  identify_subroutine_blocks (model: `identifyBlocks`) returns exactly the blocks reachable from the entry along successor
  edges, each once — including that the fuel the model gives the loop (number of blocks + 1) is sufficient.
-/
import TealerModel.Cfg
namespace Tealer.Reach

inductive Reach (bs : List RawBlock) (entry : Nat) : Nat → Prop
  | refl : Reach bs entry entry
  | step {a b : Nat} : Reach bs entry a → b ∈ (bs[a]!).next → Reach bs entry b

def WF (bs : List RawBlock) : Prop := ∀ a, a < bs.length → ∀ b ∈ (bs[a]!).next, b < bs.length

/-- the successor loop of one iteration -/
def push (out st ns : List Nat) : List Nat :=
  ns.foldl (fun st nb => if !out.contains nb && !st.contains nb then st ++ [nb] else st) st

theorem push_cons (out st ns : List Nat) (n : Nat) :
    push out st (n :: ns) = push out (if n ∉ out ∧ n ∉ st then st ++ [n] else st) ns := by
  show push out (if (!out.contains n && !st.contains n) = true then st ++ [n] else st) ns = _
  simp only [Bool.and_eq_true, Bool.not_eq_true', List.contains_eq_mem, decide_eq_false_iff_not]

theorem mem_push (out ns st : List Nat) (x : Nat) :
    x ∈ push out st ns ↔ x ∈ st ∨ (x ∈ ns ∧ x ∉ out) := by
  induction ns generalizing st with
  | nil => exact (or_iff_left fun h => nomatch h.1).symm
  | cons n ns ih =>
    -- `n` joins the stack unless it is visited or already waiting
    have hn : x ∈ (if n ∉ out ∧ n ∉ st then st ++ [n] else st) ↔ x ∈ st ∨ (x = n ∧ x ∉ out) := by
      split
      · next h =>
        rw [List.mem_append, List.mem_singleton]
        exact or_congr_right ⟨fun e => ⟨e, e ▸ h.1⟩, And.left⟩
      · next h =>
        exact (or_iff_left_of_imp fun ⟨e, ho⟩ => e ▸ Classical.not_not.mp (not_and.mp h (e ▸ ho))).symm
    rw [push_cons, ih, hn, List.mem_cons, or_assoc, ← or_and_right]

theorem nodup_push (out ns st : List Nat) (h : (st ++ out).Nodup) : (push out st ns ++ out).Nodup := by
  induction ns generalizing st with
  | nil => exact h
  | cons n ns ih =>
    rw [push_cons]
    apply ih
    split
    · rename_i hn
      rw [List.append_assoc]
      exact List.perm_middle.nodup_iff.mpr (List.nodup_cons.mpr ⟨fun hm => (List.mem_append.mp hm).elim hn.2 hn.1, h⟩)
    · exact h

structure Inv (bs : List RawBlock) (entry : Nat) (stack out : List Nat) : Prop where
  nodup : (stack ++ out).Nodup
  reach : ∀ x ∈ stack ++ out, Reach bs entry x ∧ x < bs.length
  closed : ∀ x ∈ out, ∀ y ∈ (bs[x]!).next, y ∈ out ∨ y ∈ stack
  entry : entry ∈ out ∨ entry ∈ stack

theorem Inv.done {bs : List RawBlock} {entry : Nat} {out : List Nat} (h : Inv bs entry [] out) (x : Nat) :
    x ∈ out ↔ Reach bs entry x := by
  constructor
  · exact fun hx => (h.reach x hx).1
  · intro hr
    induction hr with
    | refl => exact h.entry.resolve_right nofun
    | step _ hb ih => exact (h.closed _ ih _ hb).resolve_right nofun

/-- one iteration: the last block of the stack moves to `out`, its new successors are pushed -/
theorem Inv.pop {bs : List RawBlock} {entry bb : Nat} {stack out : List Nat} (hwf : WF bs)
    (h : Inv bs entry (stack ++ [bb]) out) : Inv bs entry (push (out ++ [bb]) stack (bs[bb]!).next) (out ++ [bb]) := by
  have hbb := h.reach bb (by simp)
  have hnd : (stack ++ (out ++ [bb])).Nodup :=
    (List.perm_append_comm.append_left stack).nodup_iff.mp (List.append_assoc .. ▸ h.nodup)
  -- a block that was visited or waiting still is
  have hkeep : ∀ y, y ∈ out ∨ y ∈ stack ++ [bb] → y ∈ out ++ [bb] ∨ y ∈ push (out ++ [bb]) stack (bs[bb]!).next := by
    rintro y (hy | hy)
    · exact .inl (List.mem_append_left _ hy)
    · rcases List.mem_append.mp hy with hy | hy
      · exact .inr ((mem_push ..).mpr (.inl hy))
      · exact .inl (List.mem_append_right _ hy)
  refine ⟨nodup_push _ _ _ hnd, fun x hx => ?_, fun x hx y hy => ?_, hkeep entry h.entry⟩
  · rcases List.mem_append.mp hx with hx | hx
    · rcases (mem_push ..).mp hx with hx | hx
      · exact h.reach x (List.mem_append_left _ (List.mem_append_left _ hx))
      · exact ⟨hbb.1.step hx.1, hwf bb hbb.2 x hx.1⟩
    · rcases List.mem_append.mp hx with hx | hx
      · exact h.reach x (List.mem_append_right _ hx)
      · exact h.reach x (List.mem_append_left _ (List.mem_append_right _ hx))
  · rcases List.mem_append.mp hx with hx | hx
    · exact hkeep y (h.closed x hx y hy)
    · cases List.mem_singleton.mp hx
      by_cases hyo : y ∈ out ++ [bb]
      · exact .inl hyo
      · exact .inr ((mem_push ..).mpr (.inr ⟨hy, hyo⟩))

theorem go_spec (bs : List RawBlock) (entry : Nat) (hwf : WF bs) :
    ∀ (fuel : Nat) (stack out : List Nat), Inv bs entry stack out → bs.length + 1 ≤ out.length + fuel →
      (∀ x, x ∈ identifyBlocks.go bs fuel stack out ↔ Reach bs entry x) ∧ (identifyBlocks.go bs fuel stack out).Nodup := by
  intro fuel
  induction fuel with
  | zero =>
    intro stack out hinv hf
    -- pigeonhole: `out` is duplicate-free and below `bs.length`
    obtain ⟨-, hout, -⟩ := List.nodup_append.mp hinv.nodup
    have := hout.length_le_of_subset fun x hx => List.mem_range.mpr (hinv.reach x (List.mem_append_right _ hx)).2
    rw [List.length_range] at this
    omega
  | succ fuel ih =>
    intro stack out hinv hf
    rcases stack.eq_nil_or_concat with rfl | ⟨stack, bb, rfl⟩
    · exact ⟨hinv.done, hinv.nodup⟩
    · rw [List.concat_eq_append] at hinv ⊢
      rw [identifyBlocks.go, List.getLast?_concat, List.dropLast_concat]
      exact ih _ _ (hinv.pop hwf) (by rw [List.length_append, List.length_singleton]; omega)

/-- identify_subroutine_blocks: the result is exactly the set of blocks reachable from the entry, without repetition -/
theorem identifyBlocks_spec (bs : List RawBlock) (entry : Nat) (hwf : WF bs) (he : entry < bs.length) :
    (∀ x, x ∈ identifyBlocks bs entry ↔ Reach bs entry x) ∧ (identifyBlocks bs entry).Nodup := by
  unfold identifyBlocks
  apply go_spec bs entry hwf
  · refine { nodup := ?_, reach := ?_, closed := ?_, entry := ?_ }
    · simp
    · intro x hx
      simp only [List.append_nil, List.mem_singleton] at hx
      subst hx
      exact ⟨Reach.refl, he⟩
    · intro x hx; cases hx
    · exact Or.inr (by simp)
  · simp

end Tealer.Reach
