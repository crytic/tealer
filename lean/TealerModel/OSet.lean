/-
  Finite sets as strictly sorted lists (canonical form, so that `=` is set equality as in Python's
  `set.__eq__`).  Membership lemmas do not depend on any property of the order.
-/
namespace Tealer

class LtB (α : Type) where
  ltb : α → α → Bool

instance : LtB Nat := ⟨fun a b => decide (a < b)⟩
instance : LtB String := ⟨fun a b => decide (a < b)⟩

namespace OSet
variable {α : Type} [DecidableEq α] [LtB α]

def insert (a : α) : List α → List α
  | [] => [a]
  | b :: l => if a = b then b :: l else if LtB.ltb a b then a :: b :: l else b :: insert a l

def ofList (l : List α) : List α := l.foldr insert []

def union (a b : List α) : List α := b.foldr insert a

def inter (a b : List α) : List α := a.filter fun x => b.contains x

def diff (a b : List α) : List α := a.filter fun x => !b.contains x

theorem mem_insert (a x : α) (l : List α) : x ∈ insert a l ↔ x = a ∨ x ∈ l := by
  fun_induction insert a l with
  | case1 => simp
  | case2 l => simp
  | case3 b l h hlt => simp
  | case4 b l h hlt ih => simp [ih, or_left_comm]

theorem mem_ofList (x : α) (l : List α) : x ∈ ofList l ↔ x ∈ l := by
  induction l with
  | nil => simp [ofList]
  | cons b l ih => rw [ofList, List.foldr_cons, mem_insert, ← ofList, ih, List.mem_cons]

theorem mem_union (x : α) (a b : List α) : x ∈ union a b ↔ x ∈ a ∨ x ∈ b := by
  induction b with
  | nil => simp [union]
  | cons c b ih => rw [union, List.foldr_cons, mem_insert, ← union, ih, List.mem_cons, or_left_comm]

omit [LtB α] in
theorem mem_inter (x : α) (a b : List α) : x ∈ inter a b ↔ x ∈ a ∧ x ∈ b := by
  simp [inter]

omit [LtB α] in
theorem mem_diff (x : α) (a b : List α) : x ∈ diff a b ↔ x ∈ a ∧ x ∉ b := by
  simp [diff]

end OSet
end Tealer
