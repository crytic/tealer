/-
  C13 — Group-configuration verdicts follow the group semantics.
  Decision logic of detect_missing_tx_field_validations_group_complete stated outright on a small model, and the offset
  inversion of fill_group_relative_indexes.  The verdicts themselves are compared on every run with concrete groups
  executed by the Lean AVM semantics (harness/groupcheck.py).
-/
import TealerModel.Group
import TealerModel.Props.TieGroup
namespace Tealer.C13
open Tealer.Group

/-- the offset table is exactly the inverse of the configured offsets -/
theorem C13_fill_inverse (txns : List (Nat × Offsets)) (other t : Nat) (k : Int) :
    (t, k) ∈ fillRelative txns other ↔ ∃ offs, (t, offs) ∈ txns ∧ (k, other) ∈ offs := by
  simp only [fillRelative, List.mem_flatMap, List.mem_filterMap, Prod.exists, Option.ite_none_right_eq_some,
    Option.some.injEq, Prod.mk.injEq, beq_iff_eq]
  constructor
  · rintro ⟨_, offs, hm, _, _, hko, rfl, rfl, rfl⟩; exact ⟨offs, hm, hko⟩
  · rintro ⟨offs, hm, hko⟩; exact ⟨t, offs, hm, k, other, hko, rfl, rfl, rfl⟩

/-- a transaction is cleared exactly when its own logic-sig or application, or another member through the configured
    absolute index or offset, excludes the value at every accepting exit -/
theorem C13_cleared_iff (c : Checks) :
    vulnerable c = false ↔
      c.ownLogicSig = some true ∨ c.ownApplication = some true ∨
      (c.absoluteIndex.isSome = true ∧ ∃ b ∈ c.othersAbsolute, b = true) ∨ (∃ b ∈ c.othersRelative, b = true) := by
  simp only [vulnerable, Bool.and_eq_false_iff, Bool.not_eq_false', beq_iff_eq, Bool.and_eq_true, List.any_eq_true, id,
    or_assoc]

theorem C13_contract_checks (leaves : List BlockCtx) (chk : Ctx → Bool) (i : Option Nat) :
    contractChecks leaves chk i = false ↔ ∃ c ∈ leaves, validatedInBlock chk c i = false := by
  simp [contractChecks]

example : vulnerable { ownLogicSig := some false, ownApplication := none, absoluteIndex := some 0, othersAbsolute := [true], othersRelative := [] } = false := by decide

/-- the loop reports exactly the eligible members that nothing clears -/
theorem C13_group_verdict_iff (det : DetType) (a : Answers) (txns : List GTxn) (i : Nat) :
    i ∈ groupVerdict det a txns ↔ ∃ t ∈ txns, t.id = i ∧ eligible det t = true ∧ cleared a txns t = false := by
  simp only [groupVerdict, List.mem_map, List.mem_filter, Bool.and_eq_true, Bool.not_eq_true']
  constructor
  · rintro ⟨t, ⟨hm, he, hc⟩, rfl⟩; exact ⟨t, hm, rfl, he, hc⟩
  · rintro ⟨t, hm, rfl, he, hc⟩; exact ⟨t, ⟨hm, he, hc⟩, rfl⟩

theorem find_id_of_mem {txns : List GTxn} (hn : (txns.map (·.id)).Nodup) {o : GTxn} (ho : o ∈ txns) :
    txns.find? (·.id == o.id) = some o := by
  induction txns with
  | nil => cases ho
  | cons x xs ih =>
    rw [List.map_cons, List.nodup_cons] at hn
    rw [List.find?_cons]
    rcases List.mem_cons.mp ho with rfl | h
    · rw [beq_self_eq_true]
    · have hne : x.id ≠ o.id := fun e => hn.1 (e ▸ List.mem_map_of_mem h)
      rw [beq_false_of_ne hne]
      exact ih hn.2 h

/-- with distinct transaction ids, a member is cleared exactly when: one of its own contracts excludes the value at every
    accepting exit; or it has a configured absolute index and a contract of some member excludes the value for that index;
    or some member configured an offset to it and a contract of that member excludes the value through that offset -/
theorem C13_cleared_spec (a : Answers) (txns : List GTxn) (t : GTxn) (hn : (txns.map (·.id)).Nodup) :
    cleared a txns t = true ↔
      anyContract t (a.own t.id) = true ∨
      (∃ i, t.absIndex = some i ∧ ∃ o ∈ txns, anyContract o (fun app => a.atAbs o.id app i) = true) ∨
      (∃ o ∈ txns, ∃ k, (k, t.id) ∈ o.offsets ∧ anyContract o (fun app => a.atRel o.id app k) = true) := by
  have hrel : clearedRel a txns t = true ↔
      ∃ o ∈ txns, ∃ k, (k, t.id) ∈ o.offsets ∧ anyContract o (fun app => a.atRel o.id app k) = true := by
    simp only [clearedRel, List.any_eq_true]
    constructor
    · rintro ⟨⟨oid, k⟩, hm, h⟩
      obtain ⟨offs, hmo, hk⟩ := (C13_fill_inverse _ _ _ _).mp hm
      obtain ⟨o, ho, heq⟩ := List.mem_map.mp hmo
      cases heq
      rw [find_id_of_mem hn ho] at h
      exact ⟨o, ho, k, hk, h⟩
    · rintro ⟨o, ho, k, hk, h⟩
      refine ⟨(o.id, k), (C13_fill_inverse _ _ _ _).mpr ⟨o.offsets, List.mem_map.mpr ⟨o, ho, rfl⟩, hk⟩, ?_⟩
      rw [find_id_of_mem hn ho]
      exact h
  have habs : clearedAbs a txns t = true ↔
      ∃ i, t.absIndex = some i ∧ ∃ o ∈ txns, anyContract o (fun app => a.atAbs o.id app i) = true := by
    unfold clearedAbs
    cases h : t.absIndex with
    | none => simp
    | some i => simp [List.any_eq_true]
  simp only [cleared, clearedOwn, Bool.or_eq_true, habs, hrel, or_assoc]

/-- premises satisfiable / behaviour on a concrete group: T2 (id 2) is reached by T0 through offset +2 and cleared, whatever
    the bystander T1 (offset +1, no check) says and wherever it is listed; T2 declares a logic-sig without a contract -/
example :
    let a : Answers := { own := fun _ _ => false, atAbs := fun _ _ _ => false, atRel := fun o _ k => o == 0 && k == 2 }
    let t0 : GTxn := ⟨0, true, true, false, true, none, [(2, 2)]⟩
    let t1 : GTxn := ⟨1, true, true, false, true, none, [(1, 2)]⟩
    let t2 : GTxn := ⟨2, true, false, false, true, some 0, []⟩
    groupVerdict .stateless a [t0, t1, t2] = [0, 1] ∧ groupVerdict .stateless a [t1, t0, t2] = [1, 0] := by decide

/-- the verdict loop is the Python's: the body of `for group_txn in tealer.groups:` in
    `detect_missing_tx_field_validations_group_complete` (eligibility by detector type, declared logic-sig, application and transaction
    type; cleared by an own contract, by some member through the configured absolute index, by some member through its configured
    offset - every `continue` and `break`), translated statement by statement from /repo's Python on this run
    (Generated/GroupLoop.lean), reports exactly `Group.groupVerdict` - the function `C13_group_verdict_iff` and `C13_cleared_spec`
    characterise - and outputs the group exactly when that list is not empty.  The three contract-level questions stay parameters
    (`Answers`); `relItemsOf` is the table `fill_group_relative_indexes` builds (`C13_fill_inverse`). -/
theorem C13_tie_verdict_loop (det : Group.DetType) (a : Group.Answers) (txns : List Group.GTxn) :
    Generated.groupComplete det a (TieG.relItemsOf txns) txns =
      (!(Group.groupVerdict det a txns).isEmpty, Group.groupVerdict det a txns) :=
  TieG.group_tie det a txns

end Tealer.C13
