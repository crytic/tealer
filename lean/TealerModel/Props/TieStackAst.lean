/-
  Tie between the hand-written model of the stack AST (Ast.constructAst: operand references (producer position, output index) per
  instruction - the object C11's value-simulation theorems are about) and `construct_stack_ast` with the `Stack` class,
  regenerated from /repo's Python on every run (Generated/StackAst.lean).  The Python builds trees of KnownStackValue objects; the
  theorem says that the tree it stores for instruction `p` is exactly the tree `full` unfolds from the model's references.
-/
import TealerModel.Generated.StackAst
import TealerModel.Props.TieAsserted
namespace Tealer.TieS
open PyView TieA OperandValues PyLoops

/-- what construct_stack_ast reads of the block's instructions (`stack_pop_size` / `stack_push_size` are the model's `pops` /
    `pushes`, compared with the real classes row by row in C11_effects_table) -/
def insInfos (ins : List Ins) (start : Nat := 0) : List PyInsInfo :=
  (ins.zipIdx start).map fun (i, p) => { pos := p, op := i.op, text := i.text, pops := i.op.pops, pushes := i.op.pushes }

/-- `Stack.pop_n_values` = the model's `popN`, on stacks of trees that are images of reference stacks -/
theorem popN_tie (F : Ref → PySV) (hF : F none = .unknown) (st : List Ref) (k : Nat) :
    Generated.popNValues (st.map F) k = (((popN st k).1).map F, ((popN st k).2).map F) := by
  unfold Generated.popNValues popN
  simp only [Id.run, List.length_map]
  -- the three returns of the Python: `count == 0` (guarded because `l[-0:]` is the whole list); enough values (`l[-k:]`, `l[:-k]`
  -- are `drop`, `take`); too few (unknown values in front).  The closing `rfl`s remove `pure` of `Id`
  by_cases hk0 : k = 0
  · subst hk0
    simp
    rfl
  · by_cases hle : k ≤ st.length
    · simp [hk0, hle, sliceLast, sliceButLast, List.map_drop, List.map_take]
      rfl
    · simp [hk0, hle, hF]
      rfl

theorem pushN_tie (a b : List PySV) : Generated.pushNValues a b = a ++ b := rfl

/-- the inner loop `for i in range(push): ins_out_values.append(KnownStackValue(ins, ins_in_values, i))` -/
theorem out_loop (v : PySV) (n : Nat) (acc : List PySV) :
    (List.range n).foldl (fun r _ => r ++ [v]) acc = acc ++ List.replicate n v :=
  (foldl_append_filterMap (fun _ => some v) _ acc).trans (by simp [List.filterMap_eq_map'])

theorem full_const (a : Ast) (hB : Backward a) (p j : Nat) : full a (some (p, j)) = full a (some (p, 0)) := by
  rw [full_unfold a hB, full_unfold a hB]

/-- `construct_stack_ast` is the model's: for every block, the stack value the Python stores for instruction `p` is the tree of
    the model's operand references (`full`), i.e. `treeOf (constructAst ins) n (some (p, 0))` for every depth n > p -/
theorem construct_tie (ins : List Ins) :
    Generated.constructStackAst (insInfos ins) = (List.range ins.length).map fun p => full (constructAst ins) (some (p, 0)) := by
  unfold Generated.constructStackAst
  simp only [Id.run, List.forIn_pure_yield_eq_foldl, out_loop, pushN_tie, List.nil_append, bind_pure_comp, map_pure]
  have hB := backward_constructAst ins
  have hlen : (insInfos ins).length = ins.length := by simp [insInfos]
  -- after `k` instructions the Python's stack is the model's (`symRun ins k`) read as trees, and its dictionary holds the
  -- trees of the first `k` instructions
  refine (congrArg (fun s => (pure s.2 : Id _)) (foldl_inv (insInfos ins) _ (fun k => ((symRun ins k).map (full (constructAst ins)),
      (List.range k).map fun p => full (constructAst ins) (some (p, 0)))) ?_)).trans ?_
  swap
  · rw [hlen]; rfl
  intro k hk
  have hlt : k < ins.length := hlen ▸ hk
  have hk' : (insInfos ins)[k] = { pos := k, op := ins[k].op, text := ins[k].text, pops := ins[k].op.pops, pushes := ins[k].op.pushes } := by
    simp [insInfos]
  have hget : ins[k]! = ins[k] := getElem!_pos ins k hlt
  simp only [hk']
  rw [popN_tie (full (constructAst ins)) rfl]
  have hargs : (constructAst ins).argsOf k = (popN (symRun ins k) ins[k].op.pops).1 := by
    rw [OperandValues.argsOf_constructAst ins _ hlt]
    simp [argsAt, astStep, hget]
  have hop := TieF.opOf_getElem? ins k _ (List.getElem?_eq_getElem hlt)
  have htext : (constructAst ins).textOf k = ins[k].text := by simp [Ast.textOf, constructAst, hlt]
  have hnode : ∀ j, full (constructAst ins) (some (k, j)) =
      PySV.known k ins[k].op ins[k].text (((popN (symRun ins k) ins[k].op.pops).1).map (full (constructAst ins))) := by
    intro j
    rw [full_unfold _ hB, hop, htext, hargs]
  apply Prod.ext
  · simp only [symRun, hget, astStep, List.map_append, List.map_map]
    simp [Function.comp_def, hnode, List.map_const']
  · simp [List.range_succ, hnode]

end Tealer.TieS
