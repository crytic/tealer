/-
  C14 — Results depend on the input only: no history, order or hash-seed effects.
  The model is a pure function of the program (no global state by construction).  Proved here: whatever the initial
  order of the worklist (any list that contains every block — the order a Python `set` iteration happens to give), when
  the loop stops its result solves the equations, and two runs from two such orders that both stop agree at every block
  (for a domain with monotone operations, on a graph that meets the mirror conditions of `Solver.fwdWF` / `bwdWF` and keeps
  its edges inside the function); detectors receive the contexts read-only and the path order is a function of the
  successor lists only.  Partial by nature: Python's hash seeds, `id()`-ordered sets, `lru_cache`s and module-level lists
  are runtime behaviour the pure model cannot exhibit; they are explored on every run (harness/metachecks.py: histories,
  detector orders, PYTHONHASHSEED values, byte-identical JSON).
-/
import TealerModel.Lemmas.Worklist
import TealerModel.Detect
import TealerModel.Lemmas.Confluence
import TealerModel.Lemmas.Fee
import TealerModel.Props.Common
namespace Tealer.C14

variable {V : Type} [DecidableEq V]

/-- any initial worklist order: if every block is queued initially, the result (when the loop stops) is a solution -/
theorem C14_any_initial_order (F : List (Nat × V) → Nat → V) (deps inputs : Nat → List Nat) (dflt : V)
    (hloc : ∀ cur cur' b, (∀ i ∈ inputs b, getMap cur i dflt = getMap cur' i dflt) → F cur b = F cur' b)
    (hdeps : ∀ b i, i ∈ inputs b → b ∈ deps i)
    (fuel : Nat) (init : List (Nat × V)) (wl : List Nat)
    (hall : ∀ b, b ∉ wl → getMap init b dflt = F init b)
    (r : List (Nat × V)) (hr : worklistRun F deps dflt fuel init wl = some r) :
    ∀ b, getMap r b dflt = F r b :=
  Worklist.worklistRun_solution F deps inputs dflt hloc hdeps fuel init wl hall r hr

omit [DecidableEq V] in
/-- two permutations of the same initial worklist satisfy the same precondition -/
theorem C14_perm_precondition (F : List (Nat × V) → Nat → V) (dflt : V) (init : List (Nat × V)) (wl wl' : List Nat)
    (hp : ∀ b, b ∈ wl ↔ b ∈ wl') (h : ∀ b, b ∉ wl → getMap init b dflt = F init b) :
    ∀ b, b ∉ wl' → getMap init b dflt = F init b :=
  fun b hb => h b (fun hm => hb ((hp b).mp hm))

/-- a detector run is a function of (function graph, contexts, detector): running one detector cannot change what
    another reads — in the model the contexts are an immutable argument -/
theorem C14_detector_pure (f : Function) (c : Contexts) (d d' : Detector) (fuel : Nat) :
    (detect f c d fuel, detect f c d' fuel) = (detect f c d fuel, (fun _ => detect f c d' fuel) (detect f c d fuel)) := rfl

/-- set inclusion on the list representation of the integer / transaction-kind sets -/
def subsetLe (a b : NatSet) : Prop := ∀ x ∈ a, x ∈ b

theorem natSet_mono (A : Analysis NatSet) (hd : A.dom = natSetDomain) : Confluence.MonoLaws A subsetLe :=
  have L := natSet_exact A hd
  Confluence.mono_of_exact L.union L.inter (fun _ v h => absurd h (L.null v))

/-- the worklist reaches a unique fixpoint, whatever the order a set iteration gives: forward pass of the group-size /
    group-index analysis (the same proof applies to the transaction-kind analysis: same domain): on a function graph whose
    predecessor lists are mirrored by successor lists, whose return points know their call sites and whose successors are
    blocks of the function, two runs started from any two initial worklists that contain every block have, when both
    stop, the same members in every block's set.  (`hmirror` and `hret` are the decidable conditions of `Solver.fwdWF` (`Solver.fwdWF_iff`), which the
    driver evaluates per program and which fail exactly on the F04 shape, where the hash-seed dependence F25 was observed;
    `hclosed` is what the KeyError checks of `mkGraph` test.) -/
theorem C14_forward_order_independent (g : Graph) (univ : NatSet) (bc : Nat → NatSet) (pc : Nat → Nat → NatSet)
    (hmirror : ∀ b ∈ g.keys, ∀ p ∈ g.prevG b, b ∈ g.nextG p)
    (hret : ∀ b ∈ g.keys, ∀ c, g.callsubOf b = some c → g.retPointOf c = some b)
    (hclosed : ∀ b ∈ g.keys, ∀ d ∈ fwdDeps g b, d ∈ g.keys)
    (wl1 wl2 : List Nat) (h1 : ∀ b ∈ wl1, b ∈ g.keys) (h2 : ∀ b ∈ wl2, b ∈ g.keys)
    (c1 : ∀ b ∈ g.keys, b ∈ wl1) (c2 : ∀ b ∈ g.keys, b ∈ wl2)
    (f1 f2 : Nat) (r1 r2 : List (Nat × NatSet))
    (hr1 : worklistRun (fwdF groupIndicesAnalysis g univ bc pc) (fwdDeps g) groupIndicesAnalysis.dom.null f1
      (g.keys.map fun k => (k, groupIndicesAnalysis.dom.null)) wl1 = some r1)
    (hr2 : worklistRun (fwdF groupIndicesAnalysis g univ bc pc) (fwdDeps g) groupIndicesAnalysis.dom.null f2
      (g.keys.map fun k => (k, groupIndicesAnalysis.dom.null)) wl2 = some r2) :
    ∀ k x, x ∈ getMap r1 k groupIndicesAnalysis.dom.null ↔ x ∈ getMap r2 k groupIndicesAnalysis.dom.null :=
  have h := Confluence.solveFwd_confluent groupIndicesAnalysis subsetLe (natSet_mono groupIndicesAnalysis rfl) g univ bc pc
    hmirror hret hclosed wl1 wl2 h1 h2 c1 c2 f1 f2 r1 r2 hr1 hr2
  fun k x => ⟨(h k).1 x, (h k).2 x⟩

/-- the generic statement: any analysis whose domain operations are monotone for some order -/
theorem C14_forward_order_independent_generic {D : Type} [DecidableEq D] (A : Analysis D) (le : D → D → Prop)
    (M : Confluence.MonoLaws A le) (g : Graph) (univ : D) (bc : Nat → D) (pc : Nat → Nat → D)
    (hmirror : ∀ b ∈ g.keys, ∀ p ∈ g.prevG b, b ∈ g.nextG p)
    (hret : ∀ b ∈ g.keys, ∀ c, g.callsubOf b = some c → g.retPointOf c = some b)
    (hclosed : ∀ b ∈ g.keys, ∀ d ∈ fwdDeps g b, d ∈ g.keys)
    (wl1 wl2 : List Nat) (h1 : ∀ b ∈ wl1, b ∈ g.keys) (h2 : ∀ b ∈ wl2, b ∈ g.keys)
    (c1 : ∀ b ∈ g.keys, b ∈ wl1) (c2 : ∀ b ∈ g.keys, b ∈ wl2)
    (f1 f2 : Nat) (r1 r2 : List (Nat × D))
    (hr1 : worklistRun (fwdF A g univ bc pc) (fwdDeps g) A.dom.null f1 (g.keys.map fun k => (k, A.dom.null)) wl1 = some r1)
    (hr2 : worklistRun (fwdF A g univ bc pc) (fwdDeps g) A.dom.null f2 (g.keys.map fun k => (k, A.dom.null)) wl2 = some r2) :
    ∀ k, le (getMap r1 k A.dom.null) (getMap r2 k A.dom.null) ∧ le (getMap r2 k A.dom.null) (getMap r1 k A.dom.null) :=
  Confluence.solveFwd_confluent A le M g univ bc pc hmirror hret hclosed wl1 wl2 h1 h2 c1 c2 f1 f2 r1 r2 hr1 hr2

/-- the backward pass, generic statement (leaves keep the forward values, non-leaf blocks are solved by the worklist) -/
theorem C14_backward_order_independent_generic {D : Type} [DecidableEq D] (A : Analysis D) (le : D → D → Prop)
    (M : Confluence.MonoLaws A le) (g : Graph) (ctx1 : Nat → D)
    (hmirror : ∀ b ∈ g.keys, g.isLeaf b = false → ∀ n ∈ g.nextG b, b ∈ g.prevG n)
    (hret : ∀ b ∈ g.keys, g.isLeaf b = false → ∀ r, g.retPointOf b = some r → g.callsubOf r = some b)
    (hclosed : ∀ b ∈ g.keys, g.isLeaf b = false → ∀ d ∈ bwdDeps g b, d ∈ g.keys ∧ g.isLeaf d = false)
    (wl1 wl2 : List Nat) (h1 : ∀ b ∈ wl1, b ∈ g.keys ∧ g.isLeaf b = false) (h2 : ∀ b ∈ wl2, b ∈ g.keys ∧ g.isLeaf b = false)
    (c1 : ∀ b ∈ g.keys, g.isLeaf b = false → b ∈ wl1) (c2 : ∀ b ∈ g.keys, g.isLeaf b = false → b ∈ wl2)
    (f1 f2 : Nat) (r1 r2 : List (Nat × D))
    (hr1 : worklistRun (bwdF A g ctx1) (bwdDeps g) A.dom.null f1
      (g.keys.map fun k => (k, if g.isLeaf k then ctx1 k else A.dom.null)) wl1 = some r1)
    (hr2 : worklistRun (bwdF A g ctx1) (bwdDeps g) A.dom.null f2
      (g.keys.map fun k => (k, if g.isLeaf k then ctx1 k else A.dom.null)) wl2 = some r2) :
    ∀ k, le (getMap r1 k A.dom.null) (getMap r2 k A.dom.null) ∧ le (getMap r2 k A.dom.null) (getMap r1 k A.dom.null) :=
  Confluence.solveBwd_confluent A le M g ctx1 hmirror hret hclosed wl1 wl2 h1 h2 c1 c2 f1 f2 r1 r2 hr1 hr2

/-- the fee chain is a domain with monotone operations: order = inclusion of the admitted fees (union and intersection are
    exact on them) — so both order-independence theorems apply to the fee analysis: two runs admit the same fees -/
theorem fee_mono : Confluence.MonoLaws feeAnalysis (fun a b => ∀ fee, Fee.gamma a fee → Fee.gamma b fee) :=
  Confluence.mono_of_exact Fee.union_exact Fee.inter_exact
    (fun a fee h => (Fee.null_only_zero fee).mp h ▸ (Fee.gamma_iff a 0).mpr (Nat.zero_le _))

/-- the integer / kind sets and the fee chain satisfy the premises of the generic theorems -/
theorem C14_domains_monotone :
    Confluence.MonoLaws groupIndicesAnalysis subsetLe ∧ Confluence.MonoLaws txnTypeAnalysis subsetLe ∧
    Confluence.MonoLaws feeAnalysis (fun a b => ∀ fee, Fee.gamma a fee → Fee.gamma b fee) :=
  ⟨natSet_mono groupIndicesAnalysis rfl, natSet_mono txnTypeAnalysis rfl, fee_mono⟩

end Tealer.C14
