/-
  Tie between the model of the group verdict loop (Group.groupVerdict, about which C13_group_verdict_iff / C13_cleared_spec are
  proved) and the loop of detectors/utils.py detect_missing_tx_field_validations_group_complete regenerated from /repo's Python on
  every run (Generated/GroupLoop.lean, the body for one group).
-/
import TealerModel.Generated.GroupLoop
import TealerModel.Lemmas.PyLoops
namespace Tealer.TieG
open Group PyLoops

/-- `group_txn.group_relative_indexes[txn].items()`: the table `fill_group_relative_indexes` builds (model: `fillRelative`), with the
    other transaction looked up by its id -/
def relItemsOf (txns : List GTxn) (t : GTxn) : List (GTxn × Int) :=
  (fillRelative (txns.map fun o => (o.id, o.offsets)) t.id).filterMap fun (oid, k) => (txns.find? (·.id == oid)).map fun o => (o, k)

/-- a loop that sets `checked = True` and breaks at the first hit computes `any` -/
theorem any_loop {α : Type} (c1 c2 : α → Bool) (l : List α) :
    (forIn (m := Id) l false fun x s =>
        if c1 x = true then pure (ForInStep.done true)
        else if c2 x = true then pure (ForInStep.done true) else pure (ForInStep.yield s)) =
      pure (l.any fun x => c1 x || c2 x) :=
  forIn_any (fun x => c1 x || c2 x) _ (fun x s => by cases c1 x <;> cases c2 x <;> rfl) l false

/-- a loop that skips (`continue`) or reports each transaction computes a filter -/
theorem filter_loop (keep : GTxn → Bool) (body : GTxn → Bool × List Nat → Id (ForInStep (Bool × List Nat)))
    (hbody : ∀ t s, body t s = pure (ForInStep.yield (if keep t = true then (true, s.2 ++ [t.id]) else (s.1, s.2)))) :
    ∀ (txns : List GTxn) (s : Bool × List Nat),
      forIn (m := Id) txns s body = pure (s.1 || txns.any keep, s.2 ++ (txns.filter keep).map (·.id)) := by
  intro txns s
  rw [forIn_yield txns s body _ fun t _ s => hbody t s]
  exact congrArg pure (foldl_report keep (·.id) txns s)

theorem rel_any (a : Answers) (txns : List GTxn) (t : GTxn) :
    ((relItemsOf txns t).any fun x => (x.1.lsContract && a.atRel x.1.id false x.2) || (x.1.hasApp && a.atRel x.1.id true x.2)) =
      clearedRel a txns t := by
  rw [relItemsOf, List.any_filterMap]
  congr 1
  funext ⟨oid, k⟩
  dsimp only
  cases List.find? (fun x => x.id == oid) txns <;> rfl

/-- the two `vulnerable_transactions[txn] = ...` branches store under the same key; a third detector type does not occur -/
theorem report_eq {β : Type} (det : DetType) (l h : Bool) (v w : β) :
    (if (det == .stateless) = true then (if l = true then v else v)
     else if (det == .stateful) = true then (if h = true then v else v) else w) = v := by
  cases det <;> cases l <;> cases h <;> rfl

/-- the verdict loop is the Python's: for one group, the translated loop reports exactly `groupVerdict`, and the group is output
    exactly when that list is not empty -/
theorem group_tie (det : DetType) (a : Answers) (txns : List GTxn) :
    Generated.groupComplete det a (relItemsOf txns) txns = (!(groupVerdict det a txns).isEmpty, groupVerdict det a txns) := by
  unfold Generated.groupComplete
  simp only [Id.run, any_loop]
  rw [filter_loop (fun t => eligible det t && !cleared a txns t)]
  · simp only [pure_bind, Bool.false_or, List.nil_append, groupVerdict, List.isEmpty_map, any_eq_filter]
    rfl
  · intro t s
    have habs : clearedAbs a txns t = (t.absIndex.isSome && txns.any fun o =>
        (o.lsContract && a.atAbs o.id false (t.absIndex.getD 0)) || (o.hasApp && a.atAbs o.id true (t.absIndex.getD 0))) := by
      unfold clearedAbs
      cases t.absIndex <;> rfl
    simp only [rel_any, pure_bind, report_eq, cleared, clearedOwn, anyContract, habs, eligible]
    generalize (det == DetType.stateless && !t.hasLogicSig) = g1
    generalize (det == DetType.stateful && !t.hasApp) = g2
    generalize (t.lsContract && a.own t.id false) = g4
    generalize (t.hasApp && a.own t.id true) = g5
    -- each `if g: continue` either fires, and both sides leave the state as it is, or is passed
    cases g1; case true => rfl
    cases g2; case true => rfl
    cases t.typeOk; case false => rfl
    cases g4; case true => rfl
    cases g5; case true => rfl
    cases clearedRel a txns t <;> cases t.absIndex.isSome <;> cases (txns.any _) <;> rfl

end Tealer.TieG
