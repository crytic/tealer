/-
  C10 — Cross-transaction (gtxn) contexts are sound for other group members.
-/
import TealerModel.Props.Common
import TealerModel.Props.TieMatchers
import TealerModel.Props.TieWorklist
import TealerModel.Lemmas.RunValues
namespace Tealer.C10

/-- `is_value_matches_key` accepts a value only if it is a read of the key's field whose index is classified as exactly what
    the key's kind stands for -/
theorem valueMatchesKey_inv (ic : Option (List Nat)) (a : Ast) (key : Key) (r : Ref) (fld : Option String)
    (h : valueMatchesKey ic a key r fld = true) :
    ∃ p o, r = some (p, o) ∧ getIndexAndField ic a p =
      some (match key.kind with | .atIndex i | .abs i => .absolute i | .rel k => .relative k | .self => .self,
        fld.getD key.base) := by
  obtain ⟨base, kind⟩ := key
  -- the guards of `is_value_matches_key` in turn: an unknown value, no group read, an unknown index, another field
  unfold valueMatchesKey at h
  split at h
  · cases h
  · rename_i p o
    split at h
    · cases h
    · rename_i ix f hif
      dsimp only at h
      split at h
      · cases h
      · split at h
        · cases h
        · rename_i hf
          have hf : f = fld.getD base := by simpa using hf
          refine ⟨p, o, rfl, ?_⟩
          rw [hif, hf]
          cases kind <;> exact congrArg (fun ix => some (ix, _)) (eq_of_beq h)

/-- attribution: a value is matched to an absolute-index key only if it is a group read whose index is classified
    as exactly that absolute index and whose field is the key's field -/
theorem C10_match_abs (ic : Option (List Nat)) (a : Ast) (base : String) (i : Nat) (r : Ref)
    (h : valueMatchesKey ic a ⟨base, .abs i⟩ r = true) :
    ∃ p o, r = some (p, o) ∧ getIndexAndField ic a p = some (.absolute i, base) :=
  valueMatchesKey_inv ic a _ r none h

theorem C10_match_rel (ic : Option (List Nat)) (a : Ast) (base : String) (k : Int) (r : Ref)
    (h : valueMatchesKey ic a ⟨base, .rel k⟩ r = true) :
    ∃ p o, r = some (p, o) ∧ getIndexAndField ic a p = some (.relative k, base) :=
  valueMatchesKey_inv ic a _ r none h

theorem C10_match_self (ic : Option (List Nat)) (a : Ast) (base : String) (r : Ref)
    (h : valueMatchesKey ic a ⟨base, .self⟩ r = true) :
    ∃ p o, r = some (p, o) ∧ getIndexAndField ic a p = some (.self, base) :=
  valueMatchesKey_inv ic a _ r none h

/-- index classification: `gtxn i f` is absolute i; `txn f` is self -/
theorem C10_classify_gtxn (ic : Option (List Nat)) (a : Ast) (p i : Nat) (f : String) (h : a.opOf p = .gtxn i f) :
    getIndexAndField ic a p = some (.absolute i, f) := by simp [getIndexAndField, h]
theorem C10_classify_txn (ic : Option (List Nat)) (a : Ast) (p : Nat) (f : String) (h : a.opOf p = .txn f) :
    getIndexAndField ic a p = some (.self, f) := by simp [getIndexAndField, h]

theorem relOffsets_nodup : relOffsets.Nodup :=
  List.Pairwise.filter _ (List.Pairwise.map _ (fun _ _ hne e => hne (Int.ofNat.inj ((Int.sub_left_inj 15).mp e)))
    List.nodup_range)

/-- for any analysis with distinct base keys: position `i` gives the kinds `atIndex i` and `abs i`, offset `k` gives `rel k`,
    and every derived key keeps its base -/
theorem gtxKeys_nodup {D : Type} [DecidableEq D] (A : Analysis D) (h : A.keysWithGtxn.Nodup) : (gtxKeys A).Nodup := by
  refine List.pairwise_flatMap.mpr ⟨fun base _ => List.nodup_append.mpr ⟨?_, ?_, ?_⟩, h.imp fun hne k hk k' hk' e => ?_⟩
  · refine List.pairwise_flatMap.mpr ⟨fun i _ => by simp, List.nodup_range.imp fun hne k hk k' hk' e => ?_⟩
    simp only [List.mem_cons, List.not_mem_nil, or_false] at hk hk'
    rcases hk with rfl | rfl <;> rcases hk' with rfl | rfl <;> cases e <;> exact hne rfl
  · exact List.Pairwise.map _ (fun a b hne e => hne (KeyKind.rel.inj (Key.mk.inj e).2)) relOffsets_nodup
  · intro k hk k' hk'
    simp only [List.mem_flatMap, List.mem_cons, List.not_mem_nil, or_false, List.mem_map] at hk hk'
    obtain ⟨i, -, rfl | rfl⟩ := hk <;> obtain ⟨o, -, rfl⟩ := hk' <;> nofun
  · simp only [List.mem_append, List.mem_flatMap, List.mem_cons, List.not_mem_nil, or_false, List.mem_map] at hk hk'
    have base_of : ∀ {b : String} {k : Key}, ((∃ i ∈ List.range MAX_GROUP_SIZE, k = ⟨b, .atIndex i⟩ ∨ k = ⟨b, .abs i⟩) ∨
        ∃ o ∈ relOffsets, (⟨b, .rel o⟩ : Key) = k) → k.base = b := by
      rintro b k (⟨i, -, rfl | rfl⟩ | ⟨o, -, rfl⟩) <;> rfl
    exact hne (by rw [← base_of hk, ← base_of hk', e])

/-- key naming: the derived keys are pairwise distinct, so information recorded for one group position or offset
    is never attributed to another -/
theorem C10_keys_nodup : (gtxKeys feeAnalysis).Nodup ∧ (gtxKeys txnTypeAnalysis).Nodup :=
  ⟨gtxKeys_nodup _ (by decide), gtxKeys_nodup _ (by decide)⟩

/-- merge of own-field information into the at-index key (`_update_gtxn_constraints`) is sound: when the own
    index is `i` and `i` is listed among the possible indices, a value admitted by both survives -/
theorem C10_merge_sound_fee (v base : FeeValue) (fee : Nat) (hv : Fee.gamma v fee) (hb : Fee.gamma base fee) :
    Fee.gamma (feeInter v base) fee := Fee.inter_sound v base fee hv hb

theorem C10_merge_sound_addr (v base : AddrSet) (x : String) (hv : Addr.gamma v x) (hb : Addr.gamma base x) :
    Addr.gamma (addrInter v base) x := Addr.inter_sound v base x hv hb

example : (gtxKeys feeAnalysis).length = 62 := by decide +kernel

/-- which transaction a read refers to is decided by the Python's own code: group_helpers._get_index /
    get_index_and_field and key_helpers.is_value_matches_key, translated statement by statement from /repo's Python on this
    run, compute exactly the model's `getIndex` / `getIndexAndField` / `valueMatchesKey` on the stack value the Python
    holds: `txn f` is this transaction, `gtxn i f` / `int i; gtxns f` the absolute index i, `txn GroupIndex; int k; ±; gtxns f`
    (either operand order for `+`) the offset ±k, anything else unknown; and a value belongs to a key exactly when field,
    kind of index and index agree -/
theorem C10_tie_index_classification (intcs : Option (List Nat)) (ins : List Ins) (key : Key) (n p o : Nat) (r : Ref)
    (fld : Option String) :
    Generated.getIndex (TieM.envOf intcs) (treeOf (constructAst ins) (n + 1) (some (p, o))) =
        TieM.fromIdx (getIndex intcs (constructAst ins) p) ∧
      Generated.getIndexAndField (TieM.envOf intcs) (treeOf (constructAst ins) (n + 2) (some (p, o))) =
        TieM.fromIF (getIndexAndField intcs (constructAst ins) p) ∧
      Generated.isValueMatchesKey (TieM.envOf intcs) key (treeOf (constructAst ins) (n + 2) r) fld =
        valueMatchesKey intcs (constructAst ins) key r fld :=
  ⟨TieM.getIndex_tie intcs _ (TieM.arity_constructAst ins) n p o,
   TieM.getIndexAndField_tie intcs _ (TieM.arity_constructAst ins) n p o,
   TieM.isValueMatchesKey_tie intcs _ (TieM.arity_constructAst ins) key n r fld⟩

/-- `is_int_push_ins`, translated from /repo's Python on this run, is the model's `intPush` -/
theorem C10_tie_int_push (intcs : Option (List Nat)) (op : Op) :
    Generated.isIntPushIns (TieM.envOf intcs) op = TieM.ipOf intcs op :=
  TieM.isIntPush_tie intcs op

/-- `Tie.class_hierarchy_tie` for this property: `gitxn` is no `Gtxn` and `itxn` no `Txn`, so a read of an inner transaction is
    not attributed to a member of the group -/
theorem C10_tie_class_hierarchy : Generated.classHierarchy = PyView.classHierarchySpec := Tie.class_hierarchy_tie

/-- `_update_gtxn_constraints`, translated from /repo's Python on this run (one entry of its double loop over keys and indices),
    is the model's `updateGtxn`: the context for "this transaction when it sits at index i" is the recorded one narrowed by the own
    context when `i` is a possible own index of the block (membership in the block's index set - not a range between its smallest and
    largest element), and empty when `i` is impossible -/
theorem C10_tie_update_gtxn {D : Type} [DecidableEq D] (A : Analysis D) (gi : List Nat) (i : Nat) (v base : D) :
    Generated.updateGtxnConstraints A.dom gi i v base = updateGtxn A gi i v base :=
  TieW.update_gtxn_tie A gi i v base

/-- the clause "(and is empty when i is impossible)" of the property, on the model: an index outside the block's index set gets
    the null set whatever was recorded -/
theorem C10_impossible_index_empty {D : Type} [DecidableEq D] (A : Analysis D) (gi : List Nat) (i : Nat) (v base : D)
    (h : i ∉ gi) : updateGtxn A gi i v base = A.dom.null := by
  simp [updateGtxn, h]

/-- the tool's classification of the two stack-index forms (the function `C10_tie_index_classification` ties to the Python):
    `txn GroupIndex; int n; +` is the relative index n, `int i` the absolute index i -/
theorem C10_classify_add (ic : Option (List Nat)) (a : Ast) (pa p1 p2 o1 o2 n : Nat) (hop : a.opOf pa = .add)
    (hargs : a.argsOf pa = [some (p1, o1), some (p2, o2)]) (h1 : a.opOf p1 = .txn "GroupIndex") (h2 : a.opOf p2 = .int (.lit n)) :
    getIndex ic a pa = .relative (n : Int) := by
  simp [getIndex, hop, hargs, intPush, isGroupIndexRead, h1, h2, intLit]

theorem C10_classify_int (ic : Option (List Nat)) (a : Ast) (p n : Nat) (h : a.opOf p = .int (.lit n)) :
    getIndex ic a p = .absolute n := by
  simp [getIndex, h, intPush]

/-- reads through `txn GroupIndex; int n; +; gtxns f` are attributed to the right transaction - against the concrete semantics.
    In a straight run of a block of the concrete machine (values `valOf` = what the instructions really pushed, `C11_block_operands`),
    a `gtxns f` whose reconstructed index operand is a `+` of the outputs of `txn GroupIndex` and `int n` pushes field `f` of the
    group member at position (own index + n): the member the tool's classification `relative n` (`C10_classify_add`) stands for -/
theorem C10_index_concrete_rel (prog : List Ins) (e : Avm.Env) (blockIns : List Ins) (pc0 : Nat) (st : Nat → Avm.State) (k : Nat)
    (hrun : OperandValues.BlockRun prog e blockIns pc0 k st) (valOf : Nat × Nat → Avm.Val)
    (hout : ∀ j, j < k → ∀ i, i < (blockIns[j]!).op.pushes →
      (st (j + 1)).stack[(st j).stack.length - (blockIns[j]!).op.pops + i]? = some (valOf (j, i)))
    (hargs : ∀ j, j < k → List.Forall₂ (OperandValues.Agree valOf) (OperandValues.argsAt blockIns j)
      ((st j).stack.drop ((st j).stack.length - (blockIns[j]!).op.pops)))
    (p pa p1 p2 : Nat) (f : String) (n : Nat) (hp : p < k) (hpa : pa < k) (hp1 : p1 < k) (hp2 : p2 < k)
    (hopp : (blockIns[p]!).op = .gtxns f) (hopa : (blockIns[pa]!).op = .add)
    (hop1 : (blockIns[p1]!).op = .txn "GroupIndex") (hop2 : (blockIns[p2]!).op = .int (.lit n))
    (hargsp : OperandValues.argsAt blockIns p = [some (pa, 0)])
    (hargsa : OperandValues.argsAt blockIns pa = [some (p1, 0), some (p2, 0)]) :
    e.field (e.self + n) f = some (valOf (p, 0)) :=
  have R : OperandValues.Realised prog e blockIns pc0 k st valOf := ⟨hrun, hout, hargs⟩
  R.val_gtxns hp hopp hargsp (R.val_add hpa hopa hargsa (R.val_groupIndex hp1 hop1) (R.val_int hp2 hop2))

theorem C10_classify_sub (ic : Option (List Nat)) (a : Ast) (pa p1 p2 o1 o2 n : Nat) (hop : a.opOf pa = .sub)
    (hargs : a.argsOf pa = [some (p1, o1), some (p2, o2)]) (h1 : a.opOf p1 = .txn "GroupIndex") (h2 : a.opOf p2 = .int (.lit n)) :
    getIndex ic a pa = .relative (-(n : Int)) := by
  simp [getIndex, hop, hargs, intPush, isGroupIndexRead, h1, h2, intLit]

/-- ... `txn GroupIndex; int n; -; gtxns f` reads the member at own index - n (and the run only gets there when n ≤ own index):
    the member the classification `relative (-n)` stands for -/
theorem C10_index_concrete_rel_sub (prog : List Ins) (e : Avm.Env) (blockIns : List Ins) (pc0 : Nat) (st : Nat → Avm.State) (k : Nat)
    (hrun : OperandValues.BlockRun prog e blockIns pc0 k st) (valOf : Nat × Nat → Avm.Val)
    (hout : ∀ j, j < k → ∀ i, i < (blockIns[j]!).op.pushes →
      (st (j + 1)).stack[(st j).stack.length - (blockIns[j]!).op.pops + i]? = some (valOf (j, i)))
    (hargs : ∀ j, j < k → List.Forall₂ (OperandValues.Agree valOf) (OperandValues.argsAt blockIns j)
      ((st j).stack.drop ((st j).stack.length - (blockIns[j]!).op.pops)))
    (p pa p1 p2 : Nat) (f : String) (n : Nat) (hp : p < k) (hpa : pa < k) (hp1 : p1 < k) (hp2 : p2 < k)
    (hopp : (blockIns[p]!).op = .gtxns f) (hopa : (blockIns[pa]!).op = .sub)
    (hop1 : (blockIns[p1]!).op = .txn "GroupIndex") (hop2 : (blockIns[p2]!).op = .int (.lit n))
    (hargsp : OperandValues.argsAt blockIns p = [some (pa, 0)])
    (hargsa : OperandValues.argsAt blockIns pa = [some (p1, 0), some (p2, 0)]) :
    n ≤ e.self ∧ e.field (e.self - n) f = some (valOf (p, 0)) :=
  have R : OperandValues.Realised prog e blockIns pc0 k st valOf := ⟨hrun, hout, hargs⟩
  have hsub := R.val_sub hpa hopa hargsa (R.val_groupIndex hp1 hop1) (R.val_int hp2 hop2)
  ⟨hsub.1, R.val_gtxns hp hopp hargsp hsub.2⟩

/-- ... and `int i; gtxns f` reads member `i` (`C10_classify_int`: absolute index i) -/
theorem C10_index_concrete_abs (prog : List Ins) (e : Avm.Env) (blockIns : List Ins) (pc0 : Nat) (st : Nat → Avm.State) (k : Nat)
    (hrun : OperandValues.BlockRun prog e blockIns pc0 k st) (valOf : Nat × Nat → Avm.Val)
    (hout : ∀ j, j < k → ∀ i, i < (blockIns[j]!).op.pushes →
      (st (j + 1)).stack[(st j).stack.length - (blockIns[j]!).op.pops + i]? = some (valOf (j, i)))
    (hargs : ∀ j, j < k → List.Forall₂ (OperandValues.Agree valOf) (OperandValues.argsAt blockIns j)
      ((st j).stack.drop ((st j).stack.length - (blockIns[j]!).op.pops)))
    (p p2 : Nat) (f : String) (n : Nat) (hp : p < k) (hp2 : p2 < k)
    (hopp : (blockIns[p]!).op = .gtxns f) (hop2 : (blockIns[p2]!).op = .int (.lit n))
    (hargsp : OperandValues.argsAt blockIns p = [some (p2, 0)]) :
    e.field n f = some (valOf (p, 0)) :=
  have R : OperandValues.Realised prog e blockIns pc0 k st valOf := ⟨hrun, hout, hargs⟩
  R.val_gtxns hp hopp hargsp (R.val_int hp2 hop2)

end Tealer.C10
