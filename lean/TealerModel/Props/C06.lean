/-
  C06 — Per-block GroupSize/GroupIndex sets are sound and exact.
-/
import TealerModel.Props.TieFlow
import TealerModel.Props.Common
import TealerModel.Props.Tie
import TealerModel.Props.TieMatchers
import TealerModel.Lemmas.IntSet
import TealerModel.Lemmas.EvalRun
import TealerModel.Lemmas.RunValues
namespace Tealer.C06

/-- tie to today's source (constants and tables imported from /repo on this run) -/
theorem C06_tie_source : Generated.sizesU = sizesU ∧ Generated.indicesU = indicesU ∧ Generated.MAX_GROUP_SIZE = MAX_GROUP_SIZE ∧
    Generated.intBaseKeys = groupIndicesAnalysis.baseKeys :=
  ⟨Tie.sizesU_tie, Tie.indicesU_tie, Tie.maxGroupSize_tie, Tie.intBaseKeys_tie⟩

/-- tie to today's source, operator table: the model's `assertedIntValues` is the function translated on this run from the
    Python AST of `_get_asserted_int_values`, on the two universal sets the analysis uses (and on any duplicate-free one) -/
theorem C06_tie_operator_table (c : Cmp) (n : Nat) :
    assertedIntValues c n sizesU = Generated.intAssertedValues c n Generated.sizesU ∧
    assertedIntValues c n indicesU = Generated.intAssertedValues c n Generated.indicesU := by
  rw [Tie.sizesU_tie, Tie.indicesU_tie]
  exact ⟨Tie.int_asserted_tie c n sizesU Tie.int_universes_nodup.1, Tie.int_asserted_tie c n indicesU Tie.int_universes_nodup.2⟩

/-- tie to today's source, lattice: group-size / group-index sets are joined and met with Python's `|` and `&` -/
theorem C06_tie_lattice (a b : NatSet) :
    groupIndicesAnalysis.dom.union a b = Generated.intUnion a b ∧ groupIndicesAnalysis.dom.inter a b = Generated.intInter a b :=
  ⟨(Tie.set_ops_tie a b).1, (Tie.set_ops_tie a b).2.1⟩

/-- leaf layer, field as first operand, all six operators, every constant: the true set lists exactly the
    values of the universe on which the comparison holds, the false set exactly the others -/
theorem C06_leaf_exact (c : Cmp) (n : Nat) (U : NatSet) (v : Nat) (hv : v ∈ U) :
    (v ∈ OSet.ofList (assertedIntValues c n U) ↔ c.eval v n = true) ∧
    (v ∈ OSet.diff U (OSet.ofList (assertedIntValues c n U)) ↔ c.eval v n = false) :=
  ⟨IntSet.asserted_true_iff c n U v hv, IntSet.asserted_false_iff c n U v hv⟩

theorem C06_union_exact (a b : NatSet) (v : Nat) : v ∈ OSet.union a b ↔ v ∈ a ∨ v ∈ b := OSet.mem_union v a b
theorem C06_inter_exact (a b : NatSet) (v : Nat) : v ∈ OSet.inter a b ↔ v ∈ a ∧ v ∈ b := OSet.mem_inter v a b

/-- an index is never listed without a larger size -/
theorem C06_coupling (sizes indices : NatSet) (i : Nat) (h : i ∈ storeIndices sizes indices) :
    ∃ s ∈ sizes, i < s := IntSet.storeIndices_coupling sizes indices i h

/-- the coupling step never removes the index of an actual execution -/
theorem C06_coupling_sound (sizes indices : NatSet) (size idx : Nat) (hs : size ∈ sizes) (hi : idx ∈ indices)
    (hlt : idx < size) : idx ∈ storeIndices sizes indices := IntSet.storeIndices_sound sizes indices size idx hs hi hlt

/-- flow layer: every solution of the reach-out (live-out) equations admits the concrete group size / index along an accepting
    trace -/
theorem C06_forward_sound (g : Graph) (univ : NatSet) (bc : Nat → NatSet) (pc : Nat → Nat → NatSet)
    (rout : List (Nat × NatSet)) (v : Nat) (tr : List Nat)
    (ht : Flow.FwdTrace g IntSet.gamma univ bc pc v tr)
    (hsol : ∀ b ∈ tr, getMap rout b [] = fwdF groupIndicesAnalysis g univ bc pc rout b) :
    ∀ i, i < tr.length → v ∈ getMap rout tr[i]! [] :=
  Flow.forward_sound groupIndicesLaws g univ bc pc rout v tr ht hsol

theorem C06_backward_sound (g : Graph) (ctx1 : Nat → NatSet) (lout : List (Nat × NatSet))
    (v : Nat) (tr : List Nat) (ht : Flow.BwdTrace g IntSet.gamma ctx1 v tr)
    (hleaf : ∀ b ∈ tr, g.isLeaf b = true → getMap lout b [] = ctx1 b)
    (hsol : ∀ b ∈ tr, getMap lout b [] = bwdF groupIndicesAnalysis g ctx1 lout b) :
    ∀ i, i < tr.length → v ∈ getMap lout tr[i]! [] :=
  Flow.backward_sound groupIndicesLaws g ctx1 lout v tr ht hleaf hsol

/-- the either-operand-order leaf statement is false on the current code (known finding F02: a constant-first
    ordered comparison is read as if the field were the first operand; tests/transaction_context/test_group_indices.py
    pins that reading): `int 2; global GroupSize; <`, i.e. 2 < size, holds for size 16 but the true set is {1} -/
def C06_leaf_full : Prop :=
  ∀ (c : Cmp) (n v : Nat), v ∈ sizesU → (c.eval n v = true → v ∈ OSet.ofList (assertedIntValues c n sizesU))

theorem C06_leaf_full_false : ¬ C06_leaf_full := by
  intro h
  have := h .lt 2 16 (by decide) (by decide)
  revert this; decide

/-- what a mirrored reading would give: exact for the constant-first order as well (the repair that the pinned
    tests rule out) -/
theorem C06_leaf_exact_if_mirrored (c : Cmp) (n : Nat) (U : NatSet) (v : Nat) (hv : v ∈ U) :
    (v ∈ OSet.ofList (assertedIntValues c.mirror n U) ↔ c.eval n v = true) ∧
    (v ∈ OSet.diff U (OSet.ofList (assertedIntValues c.mirror n U)) ↔ c.eval n v = false) := by
  have h1 := IntSet.asserted_true_iff c.mirror n U v hv
  have h2 := IntSet.asserted_false_iff c.mirror n U v hv
  rw [Cmp.mirror_eval] at h1 h2
  exact ⟨h1, h2⟩

example : (16 : Nat) ∈ sizesU ∧ Cmp.le.eval 16 16 = true := by decide

/-- the group-size leaf against the concrete semantics: in a straight run of a block, a comparison instruction whose
    reconstructed operands are the outputs of `global GroupSize` and of `int n` pushes a non-zero value exactly when
    `size op n` holds for the size of the group being approved; hence (`C06_leaf_exact`) that size is in the true set of the
    operator table when the pushed value is non-zero and in the false set when it is zero. -/
theorem C06_leaf_concrete (prog : List Ins) (e : Avm.Env) (blockIns : List Ins) (pc0 : Nat) (st : Nat → Avm.State) (k : Nat)
    (hrun : OperandValues.BlockRun prog e blockIns pc0 k st) (valOf : Nat × Nat → Avm.Val)
    (hout : ∀ j, j < k → ∀ i, i < (blockIns[j]!).op.pushes →
      (st (j + 1)).stack[(st j).stack.length - (blockIns[j]!).op.pops + i]? = some (valOf (j, i)))
    (hargs : ∀ j, j < k → List.Forall₂ (OperandValues.Agree valOf) (OperandValues.argsAt blockIns j)
      ((st j).stack.drop ((st j).stack.length - (blockIns[j]!).op.pops)))
    (p p1 p2 : Nat) (c : Cmp) (n : Nat) (hp : p < k) (hp1 : p1 < k) (hp2 : p2 < k)
    (hopp : (blockIns[p]!).op = .cmp c) (hop1 : (blockIns[p1]!).op = .global "GroupSize")
    (hop2 : (blockIns[p2]!).op = .int (.lit n))
    (hargsp : OperandValues.argsAt blockIns p = [some (p1, 0), some (p2, 0)]) (hsize : e.size ∈ sizesU) :
    (EvalRun.truthy (valOf (p, 0)) = true → e.size ∈ OSet.ofList (assertedIntValues c n sizesU)) ∧
    (EvalRun.truthy (valOf (p, 0)) = false → e.size ∈ OSet.diff sizesU (OSet.ofList (assertedIntValues c n sizesU))) := by
  have R : OperandValues.Realised prog e blockIns pc0 k st valOf := ⟨hrun, hout, hargs⟩
  obtain ⟨a, h1, hv⟩ := R.val_cmp hp hopp hargsp (R.val_int hp2 hop2)
  rw [R.val_global hp1 hop1] at h1
  cases h1
  rw [hv, EvalRun.truthy_b2n]
  exact ⟨(IntSet.asserted_true_iff c n sizesU e.size hsize).mpr, (IntSet.asserted_false_iff c n sizesU e.size hsize).mpr⟩

/-- the tool's leaf matcher on the direct check `global GroupSize; int n; op` returns exactly the operator table's true set
    and its complement in the universe — the sets `C06_leaf_concrete` places the concrete group size in -/
theorem C06_leaf_matcher_direct (ic : Option (List Nat)) (a : Ast) (p p1 p2 o1 o2 : Nat) (c : Cmp) (n : Nat)
    (hp : a.opOf p = .cmp c) (hargs : a.argsOf p = [some (p1, o1), some (p2, o2)])
    (h1 : a.opOf p1 = .global "GroupSize") (h2 : a.opOf p2 = .int (.lit n)) :
    intSingle ic a ⟨"GroupSize", .self⟩ p =
      (OSet.ofList (assertedIntValues c n sizesU), OSet.diff sizesU (OSet.ofList (assertedIntValues c n sizesU))) := by
  have hlit : intLit ic (a.opOf p2) = some n := h2 ▸ rfl
  unfold intSingle
  simp [hp, hargs, h1, hlit, intUniv]

/-- the matcher is the Python's: `_get_asserted_groupsizes` and `_get_asserted_groupindices`, translated statement by
    statement from /repo's Python on this run (with `is_int_push_ins` translated too), compute exactly the model's
    `intSingle` on the stack value the Python holds (`treeOf`), for every block and every instruction of it -/
theorem C06_tie_matchers (intcs : Option (List Nat)) (ins : List Ins) (kind : KeyKind) (n p o : Nat) :
    intSingle intcs (constructAst ins) ⟨"GroupSize", kind⟩ p =
        Generated.getAssertedGroupsizes (TieM.envOf intcs) (TieM.envOf intcs) (treeOf (constructAst ins) (n + 1) (some (p, o))) ∧
      ∀ base, base ≠ "GroupSize" → intSingle intcs (constructAst ins) ⟨base, kind⟩ p =
        Generated.getAssertedGroupindices (TieM.envOf intcs) (TieM.envOf intcs) (treeOf (constructAst ins) (n + 1) (some (p, o))) :=
  ⟨TieM.groupsizes_tie intcs _ (TieM.arity_constructAst ins) kind n p o,
   fun base hb => TieM.groupindices_tie intcs _ (TieM.arity_constructAst ins) base hb kind n p o⟩

/-- the block-level constraint of this analysis is computed by the Python's own `_block_level_constraints`, translated on this
    run (instance of `TieF.block_tie`; edge constraints and transfer functions: `C01_tie_constraints`, `C01_tie_transfer_functions`) -/
theorem C06_tie_block_constraint (intcs : Option (List Nat)) (b : FBlock) (key : Key) (n : Nat) :
    blockConstraint groupIndicesAnalysis intcs b key =
      Generated.blockLevelConstraints (TieM.envOf intcs) groupIndicesAnalysis.dom (groupIndicesAnalysis.univ key.base)
        (TieF.gaOf groupIndicesAnalysis intcs (constructAst b.ins) key (b.ins.length + 1)) (TieM.envOf intcs) key (TieF.fblockView b n) :=
  TieF.block_tie groupIndicesAnalysis intcs b key n

end Tealer.C06
