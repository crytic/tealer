/-
  C01 — Detectors never miss an approvable dangerous transaction.
  The chain is proved layer by layer; this file holds the detector layer, the C01 instances of the condition, flow and run layers and
  the ties.  The composition of the layers into one statement is not proved (DESIGN.md §10).
    execution trace  --(C04_execution_walk per step; cutting a whole trace into block runs is checked per run)-->  matched walk of the global graph
    --(C06-C10: leaf lemmas + flow soundness of any solution + worklist returns a solution)-->  contexts admit the
      concrete values at every block of the trace
    --(C01_checks_*, C01_not_validated below)-->  no block of the walk is validated
    --(searchPaths_complete)-->  the path is reported.
-/
import TealerModel.Props.TieFlow
import TealerModel.Props.TieAsserted
import TealerModel.Props.TieWorklist
import TealerModel.Lemmas.Dfs
import TealerModel.Props.Common
import TealerModel.Lemmas.Asserted
import TealerModel.Props.Tie
import TealerModel.Lemmas.EvalRun
import TealerModel.Lemmas.BlockConstraint
namespace Tealer.C01

/-- an address set that admits an address outside it holds the ANY marker -/
theorem setAddr_any {s : AddrSet} {v : String} (hg : Addr.gamma s v) (hfresh : ¬ v ∈ s) : (setAddr s).any = true :=
  List.contains_iff_mem.mpr (hg.2.resolve_right hfresh)

/-- a context that admits a fresh address in RekeyTo is not "validated" by rekey-to -/
theorem C01_checks_rekey (s : AddrSet) (c : Ctx) (hc : c.rekeyto = setAddr s) (v : String)
    (hg : Addr.gamma s v) (hfresh : ¬ v ∈ s) : checksField .rekeyTo c = false := by
  simp [checksField, hc, setAddr_any hg hfresh]

theorem C01_checks_closeAccount (s : AddrSet) (c : Ctx) (hc : c.closeto = setAddr s) (v : String)
    (hg : Addr.gamma s v) (hfresh : ¬ v ∈ s) (hpay : TT.Pay ∈ c.types) : checksField .canCloseAccount c = false := by
  simp [checksField, hc, setAddr_any hg hfresh, hpay]

theorem C01_checks_closeAsset (s : AddrSet) (c : Ctx) (hc : c.assetcloseto = setAddr s) (v : String)
    (hg : Addr.gamma s v) (hfresh : ¬ v ∈ s) (hax : TT.Axfer ∈ c.types) : checksField .canCloseAsset c = false := by
  simp [checksField, hc, setAddr_any hg hfresh, hax]

/-- a context that admits a fee above the group-cost bound is not validated by missing-fee-check -/
theorem C01_checks_fee (v : FeeValue) (c : Ctx)
    (hc : c.maxFee = (if v.isUnknown then MAX_UINT64 else v.value) ∧ c.maxFeeUnknown = v.isUnknown)
    (fee : Nat) (hg : Fee.gamma v fee) (hbig : fee > MAX_TRANSACTION_COST) : checksField .feeCheck c = false := by
  -- the predicate of `Fee.feeCheck_iff` fails for `v`, so `v` is known and the check reads its value
  have h := Bool.eq_false_iff.mpr (mt (Fee.feeCheck_iff v).mp fun hall => Nat.not_le_of_gt hbig (hall fee hg))
  obtain ⟨hu, hle⟩ := Bool.or_eq_false_iff.mp h
  rw [hu, if_neg Bool.false_ne_true] at hc
  rw [checksField, hc.1, hc.2]
  exact (Bool.false_or _).trans hle

theorem C01_checks_update (c : Ctx) (h : TT.ApplUpdateApplication ∈ c.types) : checksField .isUpdatable c = false := by
  simp [checksField, h]
theorem C01_checks_delete (c : Ctx) (h : TT.ApplDeleteApplication ∈ c.types) : checksField .isDeletable c = false := by
  simp [checksField, h]
theorem C01_checks_anyUpdate (s : AddrSet) (c : Ctx) (hc : c.sender = setAddr s) (v : String) (hg : Addr.gamma s v)
    (hfresh : ¬ v ∈ s) (h : TT.ApplUpdateApplication ∈ c.types) : checksField .anyoneCanUpdate c = false := by
  simp [checksField, hc, setAddr_any hg hfresh, h]
theorem C01_checks_anyDelete (s : AddrSet) (c : Ctx) (hc : c.sender = setAddr s) (v : String) (hg : Addr.gamma s v)
    (hfresh : ¬ v ∈ s) (h : TT.ApplDeleteApplication ∈ c.types) : checksField .anyoneCanDelete c = false := by
  simp [checksField, hc, setAddr_any hg hfresh, h]
theorem C01_checks_groupSize (c : Ctx) (hs : MAX_GROUP_SIZE ∈ c.sizes) (hg : c.isGtxn = false) :
    checksField .groupSize c = false := by
  simp [checksField, hs, hg]

/-- `validated_in_block`: a block is not validated as soon as the own-field context fails the check and so does the
    at-index context of one possible own index -/
theorem C01_not_validated (chk : Ctx → Bool) (c : BlockCtx) (i : Nat) (hself : chk c.self = false)
    (hi : i ∈ c.self.indices) (hat : chk (c.gtxn i) = false) : validatedInBlock chk c = false := by
  simp only [validatedInBlock, hself, Bool.false_eq_true, if_false]
  simp only [List.all_eq_false]
  exact ⟨i, hi, by simp [hat]⟩

/-- detector layer, completeness: a matched walk from the entry to a leaf on which no block is validated (and
    which respects the loop / recursion cuts) is among the reported paths -/
theorem C01_search_complete (g : DGraph) (entry : Nat) (main : String) (rest : List Nat)
    (hw : Dfs.Walk g [(none, main)] [[]] entry rest) (fuel : Nat) (hf : rest.length < fuel) (ps : List (List Nat))
    (h : searchPaths g fuel entry [] [(none, main)] [[]] = some ps) : ps ≠ [] := by
  have := Dfs.searchPaths_complete g _ _ _ _ hw fuel [] ps hf h
  intro he; subst he; cases this

/-- condition layer: for each of the four analyses, `_get_asserted` (And / Or / Not combination with flattening and unknown
    operands) is sound whenever the leaf matcher is: a condition that evaluates to non-zero puts the governed value in
    γ(true set), one that evaluates to zero in γ(false set); an unknown operand may take either truth value -/
theorem C01_condition_sound_fee (ic : Option (List Nat)) (a : Ast) (lv : Nat → Bool) (key : Key) (fee : Nat)
    (hfee : fee ≤ MAX_UINT64)
    (hs : ∀ p, (lv p = true → Fee.gamma (feeAnalysis.single ic a key p).1 fee) ∧ (lv p = false → Fee.gamma (feeAnalysis.single ic a key p).2 fee))
    (n p o : Nat) (b : Bool) (h : Asserted.Eval a lv (some (p, o)) b) :
    (b = true → Fee.gamma (getAsserted feeAnalysis ic a key n p).1 fee) ∧
    (b = false → Fee.gamma (getAsserted feeAnalysis ic a key n p).2 fee) :=
  Asserted.getAsserted_sound feeLaws ic key fee (Fee.univ_top fee hfee) hs n p o b h

theorem C01_condition_sound_sets (ic : Option (List Nat)) (a : Ast) (lv : Nat → Bool) (key : Key) (v : Nat)
    (hv : v ∈ groupIndicesAnalysis.univ key.base)
    (hs : ∀ p, (lv p = true → v ∈ (groupIndicesAnalysis.single ic a key p).1) ∧ (lv p = false → v ∈ (groupIndicesAnalysis.single ic a key p).2))
    (n p o : Nat) (b : Bool) (h : Asserted.Eval a lv (some (p, o)) b) :
    (b = true → v ∈ (getAsserted groupIndicesAnalysis ic a key n p).1) ∧
    (b = false → v ∈ (getAsserted groupIndicesAnalysis ic a key n p).2) :=
  Asserted.getAsserted_sound groupIndicesLaws ic key v hv hs n p o b h

theorem C01_condition_sound_addr (ic : Option (List Nat)) (a : Ast) (lv : Nat → Bool) (key : Key) (x : String)
    (hs : ∀ p, (lv p = true → Addr.gamma (addrAnalysis.single ic a key p).1 x) ∧ (lv p = false → Addr.gamma (addrAnalysis.single ic a key p).2 x))
    (n p o : Nat) (b : Bool) (h : Asserted.Eval a lv (some (p, o)) b) :
    (b = true → Addr.gamma (getAsserted addrAnalysis ic a key n p).1 x) ∧
    (b = false → Addr.gamma (getAsserted addrAnalysis ic a key n p).2 x) :=
  Asserted.getAsserted_sound addrLaws ic key x (Addr.univ_top x) hs n p o b h

/-- flow layer for the fee analysis, composed with the solver: what `solveFwd` returns bounds every approvable fee along an
    accepting trace (the same statement holds for the other three analyses through `solver_forward_sound`) -/
theorem C01_solver_forward_sound_fee (g : Graph) (bc : Nat → FeeValue) (pc : Nat → Nat → FeeValue)
    (hwf : Solver.fwdWF g = true) (r : List (Nat × FeeValue)) (h : solveFwd feeAnalysis g feeUniv bc pc = some r)
    (fee : Nat) (tr : List Nat) (ht : Flow.FwdTrace g Fee.gamma feeUniv bc pc fee tr) (hkeys : ∀ b ∈ tr, b ∈ g.keys) :
    ∀ i, i < tr.length → Fee.gamma (getMap r tr[i]! feeNull) fee :=
  solver_forward_sound feeLaws g feeUniv bc pc hwf r h fee tr ht hkeys

/-- both passes, any of the four analyses: what `solve` (forward_analyis then backward_analysis) returns for a key admits
    the concrete value at every block of an accepting block trace — a trace that starts at the entry, follows recorded
    edges, ends in its only leaf, returns from every call whose callee can return, and along which the block and edge
    constraints hold.  Premises on the graph are the decidable conditions `fwdWF` / `bwdWF`. -/
theorem C01_solver_sound {D V : Type} [DecidableEq D] {A : Analysis D} {γ : D → V → Prop} (L : Flow.GammaLaws A γ)
    (g : Graph) (univ : D) (bc : Nat → D) (pc : Nat → Nat → D)
    (hwf1 : Solver.fwdWF g = true) (hwf2 : Solver.bwdWF g = true)
    (r : List (Nat × D)) (h : solve A g univ bc pc = .ok r) (v : V) (tr : List Nat)
    (ht1 : Flow.FwdTrace g γ univ bc pc v tr) (hkeys : ∀ b ∈ tr, b ∈ g.keys)
    (hshape : tr ≠ [] ∧ g.isLeaf tr[tr.length - 1]! = true ∧ (∀ i, i + 1 < tr.length → g.isLeaf tr[i]! = false) ∧
      (∀ i, i + 1 < tr.length → tr[i+1]! ∈ g.nextG tr[i]!) ∧
      (∀ i, i < tr.length → ∀ r, g.retPointOf tr[i]! = some r → g.calleeHasRetsub tr[i]! = true →
        ∃ j, i < j ∧ j < tr.length ∧ tr[j]! = r)) :
    ∀ i, i < tr.length → γ (getMap r tr[i]! A.dom.null) v :=
  solver_sound L g univ bc pc hwf1 hwf2 r h v tr ht1 hkeys hshape

theorem C01_solver_sound_fee (g : Graph) (bc : Nat → FeeValue) (pc : Nat → Nat → FeeValue)
    (hwf1 : Solver.fwdWF g = true) (hwf2 : Solver.bwdWF g = true)
    (r : List (Nat × FeeValue)) (h : solve feeAnalysis g feeUniv bc pc = .ok r) (fee : Nat) (tr : List Nat)
    (ht1 : Flow.FwdTrace g Fee.gamma feeUniv bc pc fee tr) (hkeys : ∀ b ∈ tr, b ∈ g.keys)
    (hshape : tr ≠ [] ∧ g.isLeaf tr[tr.length - 1]! = true ∧ (∀ i, i + 1 < tr.length → g.isLeaf tr[i]! = false) ∧
      (∀ i, i + 1 < tr.length → tr[i+1]! ∈ g.nextG tr[i]!) ∧
      (∀ i, i < tr.length → ∀ r, g.retPointOf tr[i]! = some r → g.calleeHasRetsub tr[i]! = true →
        ∃ j, i < j ∧ j < tr.length ∧ tr[j]! = r)) :
    ∀ i, i < tr.length → Fee.gamma (getMap r tr[i]! feeNull) fee :=
  solver_sound feeLaws g feeUniv bc pc hwf1 hwf2 r h fee tr ht1 hkeys hshape

/-- the fields of the model's context that the translated predicates read -/
def toGCtx (c : Ctx) : Generated.GCtx :=
  { rekeytoAny := c.rekeyto.any, closetoAny := c.closeto.any, assetclosetoAny := c.assetcloseto.any, senderAny := c.sender.any,
    types := c.types, maxFee := c.maxFee, maxFeeUnknown := c.maxFeeUnknown }

/-- tie to today's source, detector predicates: the model's `checksField` of the eight field detectors is, for every
    context, the nested `checks_field` function of the detector class as translated from its Python AST on this run
    (enum numbers and MAX_TRANSACTION_COST read from /repo) -/
theorem C01_tie_predicates (c : Ctx) :
    checksField .rekeyTo c = Generated.checks_rekeyTo (toGCtx c) ∧
    checksField .canCloseAccount c = Generated.checks_canCloseAccount (toGCtx c) ∧
    checksField .canCloseAsset c = Generated.checks_canCloseAsset (toGCtx c) ∧
    checksField .feeCheck c = Generated.checks_feeCheck (toGCtx c) ∧
    checksField .isUpdatable c = Generated.checks_isUpdatable (toGCtx c) ∧
    checksField .isDeletable c = Generated.checks_isDeletable (toGCtx c) ∧
    checksField .anyoneCanUpdate c = Generated.checks_anyoneCanUpdate (toGCtx c) ∧
    checksField .anyoneCanDelete c = Generated.checks_anyoneCanDelete (toGCtx c) :=
  -- the two sides unfold to the same term, the enum numbers and the cost bound included
  ⟨rfl, rfl, rfl, rfl, rfl, rfl, rfl, rfl⟩

/-- tie to today's source, `validated_in_block`: the model's function is the one translated on this run from
    detectors/utils.py (own context first; then the context at the configured absolute index, or at every index the
    transaction may have) -/
theorem C01_tie_validated (chk : Ctx → Bool) (c : BlockCtx) (i : Option Nat) :
    validatedInBlock chk c i = Generated.validatedInBlock chk c.self c.gtxn c.self.indices i := by
  unfold validatedInBlock Generated.validatedInBlock
  cases i <;> simp

/-- from the concrete run to the asserted sets: for a straight run of the concrete machine through the first `k` instructions
    (dedicated opcodes) of a block, with `valOf` the values really pushed, for every analysis whose domain over-approximates
    (`GammaLaws`) and whose leaf matcher is sound for the actual truth of the leaves ("the value the leaf instruction pushed is
    non-zero"), the sets `_get_asserted` computes for a single-output instruction `p` of the run admit the governed value: the
    true set when the value the AVM pushed at `p` is non-zero, the false set when it is zero.  What remains per domain is the
    soundness of the leaf matcher itself (C06-C09). -/
theorem C01_asserted_of_run {D V : Type} [DecidableEq D] {A : Analysis D} {γ : D → V → Prop} (L : Flow.GammaLaws A γ)
    (prog : List Ins) (e : Avm.Env) (blockIns : List Ins) (pc0 k : Nat) (st : Nat → Avm.State)
    (hrun : OperandValues.BlockRun prog e blockIns pc0 k st) :
    ∃ valOf : Nat × Nat → Avm.Val,
      (∀ j, j < k → ∀ i, i < (blockIns[j]!).op.pushes →
        (st (j + 1)).stack[(st j).stack.length - (blockIns[j]!).op.pops + i]? = some (valOf (j, i))) ∧
      ∀ (ic : Option (List Nat)) (key : Key) (v : V), γ (A.univ key.base) v →
        (∀ p, (EvalRun.truthy (valOf (p, 0)) = true → γ (A.single ic (constructAst blockIns) key p).1 v) ∧
              (EvalRun.truthy (valOf (p, 0)) = false → γ (A.single ic (constructAst blockIns) key p).2 v)) →
        ∀ n p, p < k → (blockIns[p]!).op.pushes = 1 →
          (EvalRun.truthy (valOf (p, 0)) = true → γ (getAsserted A ic (constructAst blockIns) key n p).1 v) ∧
          (EvalRun.truthy (valOf (p, 0)) = false → γ (getAsserted A ic (constructAst blockIns) key n p).2 v) := by
  refine ⟨OperandValues.runVal blockIns st, hrun.realised.out, fun ic key v huniv hs n p hp hpush => ?_⟩
  exact Asserted.getAsserted_sound L ic key v huniv hs n p 0 _ (EvalRun.eval_of_realised hrun.realised p hp hpush)

/-- for a straight run of the concrete machine through all instructions of a block (one that ends in a branch, a call or
    falls through: every `assert` passed), the constraint `_block_level_constraints` computes for any key admits the governed
    value, for every domain that over-approximates and every leaf matcher sound for the actual leaf truths -/
theorem C01_block_constraint_of_run {D V : Type} [DecidableEq D] {A : Analysis D} {γ : D → V → Prop}
    (L : Flow.GammaLaws A γ) (prog : List Ins) (e : Avm.Env) (b : FBlock) (pc0 : Nat) (st : Nat → Avm.State)
    (hrun : OperandValues.BlockRun prog e b.ins pc0 b.ins.length st) :
    ∃ valOf : Nat × Nat → Avm.Val,
      (∀ j, j < b.ins.length → ∀ i, i < (b.ins[j]!).op.pushes →
        (st (j + 1)).stack[(st j).stack.length - (b.ins[j]!).op.pops + i]? = some (valOf (j, i))) ∧
      ∀ (ic : Option (List Nat)) (key : Key) (v : V), γ (A.univ key.base) v →
        (∀ p, (EvalRun.truthy (valOf (p, 0)) = true → γ (A.single ic (constructAst b.ins) key p).1 v) ∧
              (EvalRun.truthy (valOf (p, 0)) = false → γ (A.single ic (constructAst b.ins) key p).2 v)) →
        γ (blockConstraint A ic b key) v :=
  ⟨_, hrun.realised.out, fun _ _ _ huniv hs => BlockConstraint.blockConstraint_sound hrun.realised
    ⟨L, huniv, hs⟩ fun _ hj hjl => absurd hjl (Nat.not_lt.mpr hj)⟩

/-- for a straight run through all instructions of a block: if `succ` is recorded as the fall-through successor only when the
    final `bz` / `bnz` fell through, and as the jump successor only when it jumped (what `C04_edge_order` /
    `C04_execution_walk` say of real traces), then the constraint `_path_level_constraints` stores on the edge to `succ` admits
    the governed value -/
theorem C01_edge_constraint_of_run {D V : Type} [DecidableEq D] {A : Analysis D} {γ : D → V → Prop}
    (L : Flow.GammaLaws A γ) (prog : List Ins) (e : Avm.Env) (b : FBlock) (pc0 : Nat) (st : Nat → Avm.State)
    (hrun : OperandValues.BlockRun prog e b.ins pc0 b.ins.length st) (hne : b.ins ≠ []) :
    ∃ (valOf : Nat × Nat → Avm.Val),
      ∀ (ic : Option (List Nat)) (key : Key) (v : V) (succ : Nat), γ (A.univ key.base) v →
        (∀ p, (EvalRun.truthy (valOf (p, 0)) = true → γ (A.single ic (constructAst b.ins) key p).1 v) ∧
              (EvalRun.truthy (valOf (p, 0)) = false → γ (A.single ic (constructAst b.ins) key p).2 v)) →
        (∀ l r n, (b.ins[b.ins.length - 1]!).op = .bz l → (st (b.ins.length - 1)).stack = r ++ [.int n] →
          ((BlockConstraint.edgesOf b).1 = some succ → n ≠ 0) ∧
          ((BlockConstraint.edgesOf b).1 ≠ some succ → (BlockConstraint.edgesOf b).2 = some succ → n = 0)) →
        (∀ l r n, (b.ins[b.ins.length - 1]!).op = .bnz l → (st (b.ins.length - 1)).stack = r ++ [.int n] →
          ((BlockConstraint.edgesOf b).1 = some succ → n = 0) ∧
          ((BlockConstraint.edgesOf b).1 ≠ some succ → (BlockConstraint.edgesOf b).2 = some succ → n ≠ 0)) →
        γ (pathConstraint A ic b succ key) v := by
  have R := hrun.realised
  refine ⟨OperandValues.runVal b.ins st, fun ic key v succ huniv hs hbz hbnz => ?_⟩
  have S : BlockConstraint.Sound A γ b.ins _ ic key v := ⟨L, huniv, hs⟩
  have hj : b.ins.length - 1 < b.ins.length := Nat.sub_one_lt (mt List.length_eq_zero_iff.mp hne)
  rw [BlockConstraint.pathConstraint_eq]
  split
  · have hlast := BlockConstraint.exitOp_last ‹_›
    obtain ⟨r, _, _, hst, hsem, hag, _⟩ := R.sem hj hlast
    cases hsem with
    | bz _ n =>
      obtain ⟨h1, h2⟩ := hbz _ r n hlast hst
      exact BlockConstraint.branchSide_sound R S (Nat.le_of_lt hj) hj hag _ _ _ true
        (fun h => (bne_iff_ne.mpr (h1 h)).symm) (fun h h' => (beq_iff_eq.mpr (h2 h h')).symm)
  · have hlast := BlockConstraint.exitOp_last ‹_›
    obtain ⟨r, _, _, hst, hsem, hag, _⟩ := R.sem hj hlast
    cases hsem with
    | bnz _ n =>
      obtain ⟨h1, h2⟩ := hbnz _ r n hlast hst
      exact BlockConstraint.branchSide_sound R S (Nat.le_of_lt hj) hj hag _ _ _ false
        (fun h => (bne_eq_false_iff_eq.mpr (h1 h)).symm) (fun h h' => (beq_eq_false_iff_ne.mpr (h2 h h')).symm)
  · exact huniv

/-- the block that approves: after a straight run through all instructions of a block but the last, whose last instruction is
    a `return` on which the machine approves, the block-level constraint admits the governed value (the returned value not
    being the literal the tool reads as `return 0`).  With `C01_block_constraint_of_run` and `C01_edge_constraint_of_run` this
    covers every block and edge constraint along an approving execution, block by block. -/
theorem C01_accepting_block_of_run {D V : Type} [DecidableEq D] {A : Analysis D} {γ : D → V → Prop}
    (L : Flow.GammaLaws A γ) (prog : List Ins) (e : Avm.Env) (b : FBlock) (pc0 : Nat) (st : Nat → Avm.State)
    (hne : b.ins ≠ []) (hrun : OperandValues.BlockRun prog e b.ins pc0 (b.ins.length - 1) st)
    (hlast : (b.ins[b.ins.length - 1]!).op = .ret)
    (hcode : prog[pc0 + (b.ins.length - 1)]? = some (b.ins[b.ins.length - 1]!))
    (hacc : Avm.step prog e (st (b.ins.length - 1)) = .accept) :
    ∃ valOf : Nat × Nat → Avm.Val,
      ∀ (ic : Option (List Nat)) (key : Key) (v : V), γ (A.univ key.base) v →
        (∀ p, (EvalRun.truthy (valOf (p, 0)) = true → γ (A.single ic (constructAst b.ins) key p).1 v) ∧
              (EvalRun.truthy (valOf (p, 0)) = false → γ (A.single ic (constructAst b.ins) key p).2 v)) →
        (∀ q, condArg (constructAst b.ins) (b.ins.length - 1) = some q →
          intPush ic ((constructAst b.ins).opOf q) ≠ some (some (.lit 0))) →
        γ (blockConstraint A ic b key) v := by
  have R := hrun.realised
  refine ⟨OperandValues.runVal b.ins st, fun ic key v huniv hs hnz => ?_⟩
  have S : BlockConstraint.Sound A γ b.ins _ ic key v := ⟨L, huniv, hs⟩
  refine BlockConstraint.blockConstraint_sound R S fun j hj hjl => ?_
  obtain rfl : j = b.ins.length - 1 := Nat.le_antisymm (Nat.le_sub_one_of_lt hjl) hj
  exact BlockConstraint.bcStep_accept R S (hrun.vsim _ (Nat.le_refl _)) hjl hlast (by rw [hrun.pcs _ (Nat.le_refl _)]; exact hcode) hacc hnz _

/-- the premises of the run-based theorems are satisfiable: a concrete straight run (fee 500 through `txn Fee; int 1000; <;
    assert`) is a `BlockRun` of four steps -/
def sampleBlock : List Ins :=
  [⟨1, .txn "Fee", ""⟩, ⟨2, .int (.lit 1000), ""⟩, ⟨3, .cmp .lt, ""⟩, ⟨4, .assert, ""⟩, ⟨5, .int (.lit 1), ""⟩, ⟨6, .ret, ""⟩]
def sampleEnv : Avm.Env := { size := 1, self := 0, txns := [⟨[("Fee", .int 500)]⟩] }
def sampleStates : Nat → Avm.State
  | 0 => {}
  | j + 1 => match Avm.step sampleBlock sampleEnv (sampleStates j) with | .next s => s | _ => sampleStates j

example : OperandValues.BlockRun sampleBlock sampleEnv sampleBlock 0 4 sampleStates := by
  refine ⟨by decide, by decide, by decide, ?_, ?_⟩
  · intro j hj
    have : j = 0 ∨ j = 1 ∨ j = 2 ∨ j = 3 := by omega
    rcases this with rfl | rfl | rfl | rfl <;> rfl
  · intro j hj n a b
    have : j = 0 ∨ j = 1 ∨ j = 2 ∨ j = 3 := by omega
    rcases this with rfl | rfl | rfl | rfl <;> simp [sampleBlock]

example : checksField .feeCheck { maxFee := 1000 } = true ∧ checksField .feeCheck {} = false := by decide

/-- the block-level and edge constraints are the Python's: `_block_level_constraints` (assert / return / err, the
    `int 0; return` case) and `_path_level_constraints` (which edge of a bz / bnz gets which side, the branch to the next
    instruction), translated statement by statement from /repo's Python on this run for one analysis key, compute exactly the
    model's `blockConstraint` and `pathConstraint`, for every analysis, key, block and successor -/
theorem C01_tie_constraints {D : Type} [DecidableEq D] (A : Analysis D) (intcs : Option (List Nat)) (b : FBlock) (key : Key) (n : Nat) :
    blockConstraint A intcs b key =
        Generated.blockLevelConstraints (TieM.envOf intcs) A.dom (A.univ key.base)
          (TieF.gaOf A intcs (constructAst b.ins) key (b.ins.length + 1)) (TieM.envOf intcs) key (TieF.fblockView b n) ∧
      ∀ (nextGlobal : List Nat) (succ : Nat), succ ∈ nextGlobal → b.next ≠ [] →
        Generated.pathLevelConstraints (TieM.envOf intcs) A.dom (A.univ key.base)
            (TieF.gaOf A intcs (constructAst b.ins) key (b.ins.length + 1)) (TieM.envOf intcs) key (TieF.predView b nextGlobal n) succ =
          some (pathConstraint A intcs b succ key) :=
  ⟨TieF.block_tie A intcs b key n, fun ng succ hs hne => TieF.path_tie A intcs b key n ng succ hs hne⟩

/-- the transfer functions are the Python's: `_calculate_reachin` (union over the global predecessors of reach-out ∩ edge
    constraint, intersected with the call site's reach-out at a return point) and `_calculate_livein` (union over the global
    successors, intersected with the return point's live-out at a call site whose callee returns), translated from /repo's
    Python on this run, are the equations `fwdF` / `bwdF` the solver theorems are about -/
theorem C01_tie_transfer_functions {D : Type} [DecidableEq D] (A : Analysis D) (g : Graph) (univ : D) (bc : Nat → D) (pc : Nat → Nat → D)
    (cur : List (Nat × D)) (b : Nat) (E : PyView.Env) (key : Key) :
    fwdF A g univ bc pc cur b =
        A.dom.inter (Generated.calculateReachin A.dom univ (pc b) E key (TieF.graphBlock g b) (fun k => getMap cur k A.dom.null)) (bc b) ∧
      bwdF A g bc cur b =
        (if g.isLeaf b then getMap cur b A.dom.null
         else A.dom.inter (Generated.calculateLivein A.dom univ E key (TieF.graphBlock g b) (fun k => getMap cur k A.dom.null)) (bc b)) :=
  ⟨TieF.reachin_tie A g univ bc pc cur b E key, TieF.livein_tie A g univ bc cur b E key⟩

/-- `_get_asserted` is the Python's: the recursion of generic.py over condition trees (`&&` / `||` flattened by
    `compute_equations` / `_flatten_ast`, `!` swapping the two sides, an unknown operand widening one side to the universal set),
    translated statement by statement from /repo's Python on this run (Generated/Asserted.lean; the unbounded recursion bounded by
    fuel), returns - with fuel block length + 3 - exactly the model's `getAsserted`, on every stack value that the translated
    `_block_level_constraints` / `_path_level_constraints` pass to it (the parameter `gaOf` of `C01_tie_constraints`), for every
    analysis whose leaf matcher `single` is the model's (premise; discharged for the address and fee analyses by
    `TieA.single_addr` / `TieA.single_fee` from the translated leaf matchers) -/
theorem C01_tie_get_asserted {D : Type} [DecidableEq D] (A : Analysis D) (intcs : Option (List Nat)) (ins : List Ins) (key : Key)
    (E : PyView.Env) (single : Key → PySV → D × D)
    (hs : ∀ q o, single key (TieA.full (constructAst ins) (some (q, o))) = A.single intcs (constructAst ins) key q)
    (n q o : Nat) (hq : q < ins.length) (hn : ins.length ≤ n) :
    Generated.getAssertedPy A.dom (A.univ key.base) single E (ins.length + 3) key (treeOf (constructAst ins) n (some (q, o))) =
      some (TieF.gaOf A intcs (constructAst ins) key (ins.length + 1) (treeOf (constructAst ins) n (some (q, o)))) :=
  TieA.gaOf_is_python A intcs ins key E single hs n q o hq hn

/-- the same with the leaf matcher included, for the address analysis: nothing of `_get_asserted` is a parameter -/
theorem C01_tie_get_asserted_addr (intcs : Option (List Nat)) (ins : List Ins) (key : Key) (n q o : Nat) (hq : q < ins.length)
    (hn : ins.length ≤ n) :
    Generated.getAssertedPy addrAnalysis.dom (addrAnalysis.univ key.base)
        (fun k v => Generated.getAssertedTxnGtxn (TieM.envOf intcs) (TieM.envOf intcs) k v) (TieM.envOf intcs) (ins.length + 3) key
        (treeOf (constructAst ins) n (some (q, o))) =
      some (TieF.gaOf addrAnalysis intcs (constructAst ins) key (ins.length + 1) (treeOf (constructAst ins) n (some (q, o)))) :=
  TieA.gaOf_is_python addrAnalysis intcs ins key (TieM.envOf intcs) _ (fun q o => TieA.single_addr intcs ins key q o) n q o hq hn

/-- non-vacuity: `txn RekeyTo; global ZeroAddress; ==; !; assert` - the translated Python evaluated by the kernel on the stack
    value of the `!` gives `some` of a pair whose two sides differ -/
example :
    let ins : List Ins := [⟨1, .txn "RekeyTo", "txn RekeyTo"⟩, ⟨2, .global "ZeroAddress", "global ZeroAddress"⟩, ⟨3, .cmp .eq, "=="⟩, ⟨4, .not, "!"⟩, ⟨5, .assert, "assert"⟩]
    (Generated.getAssertedPy addrAnalysis.dom (addrAnalysis.univ "RekeyTo")
        (fun k v => Generated.getAssertedTxnGtxn (TieM.envOf none) (TieM.envOf none) k v) (TieM.envOf none) (ins.length + 3) ⟨"RekeyTo", .self⟩
        (treeOf (constructAst ins) ins.length (some (3, 0)))).map (fun r => r.1 != r.2) = some true := by
  decide +kernel

/-- the worklist solvers are the Python's: `forward_analyis` and `backward_analysis` (with `_merge_information_forward` /
    `_merge_information_backward`: initialisation of the per-key dictionary, the `while worklist:` loop, which blocks are re-queued
    when a block's value changes - global successors plus the return point of a call site, resp. global predecessors plus the call
    site of a return point -, the early exit of the backward merge at leaf blocks), translated statement by statement from /repo's
    Python on this run for one analysis key (Generated/Worklist.lean; `while` = recursion on fuel), compute - with the model's fuel
    and initial worklists - exactly `solveFwd` and `solveBwd`, the functions `C01_solver_sound`, `C03_contexts_exact` and
    `C14_forward_order_independent` are about.  (With several keys the Python re-queues a block when any key changed: another
    schedule of the same equations, immaterial by C14.) -/
theorem C01_tie_worklists {D : Type} [DecidableEq D] (A : Analysis D) (g : Graph) (univ : D) (bc ctx1 : Nat → D) (pc : Nat → Nat → D)
    (E : PyView.Env) (key : Key) :
    Generated.forwardAnalyis A.dom univ bc pc g.keys (TieF.graphBlock g) E key (solverFuel g) (fwdWorklist g) =
        (solveFwd A g univ bc pc).map (TieW.asFun A.dom.null) ∧
      Generated.backwardAnalysis A.dom univ ctx1 pc g.keys (TieF.graphBlock g) E key (solverFuel g) (bwdWorklist g) =
        (solveBwd A g ctx1).map (TieW.asFun A.dom.null) :=
  ⟨TieW.forward_tie A g univ bc pc E key, TieW.backward_tie A g univ ctx1 pc E key⟩

/-- non-vacuity: the translated `forward_analyis`, evaluated by the kernel on a two-block graph (entry 0 -> leaf 1, block 1
    constrained to {2, 3}, the edge to {1, 2}), returns `some` solution with reach-out {1, 2, 3} at the entry and {2} at the leaf -/
example :
    let g : Graph := { keys := [0, 1], entry := 0, nextG := fun k => if k = 0 then [1] else [], prevG := fun k => if k = 1 then [0] else [],
                       isLeaf := fun k => k == 1, retPointOf := fun _ => none, callsubOf := fun _ => none, calleeHasRetsub := fun _ => false,
                       postorders := [[1, 0]] }
    (Generated.forwardAnalyis natSetDomain [1, 2, 3] (fun k => if k = 1 then [2, 3] else [1, 2, 3]) (fun _ _ => [1, 2]) g.keys
        (TieF.graphBlock g) (TieM.envOf none) ⟨"GroupSize", .self⟩ (solverFuel g) (fwdWorklist g)).map (fun r => (r 0, r 1)) =
      some ([1, 2, 3], [2]) := by
  decide +kernel

/-- the views of the translated functions read `isinstance(x, C)` as "x is of class C": right, because on this run no class of
    /repo's instruction / field modules is a subclass of another one the analyses test for (`itxn` is not a `Txn`, `gitxn` not a
    `Gtxn`; only the `intc` family shares `IntcInstruction`) -/
theorem C01_tie_class_hierarchy : Generated.classHierarchy = PyView.classHierarchySpec := Tie.class_hierarchy_tie

end Tealer.C01
