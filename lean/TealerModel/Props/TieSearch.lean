/-
  Tie between the model of the path search (Detect.searchPaths, about which C02's validity and C01's completeness theorems are
  stated) and the function regenerated on every run from the Python AST of detectors/utils.py (Generated/Search.lean).
-/
import TealerModel.Generated.Search
import TealerModel.Detect
import TealerModel.Lemmas.PyLoops
namespace Tealer.TieS
open PyLoops

/-- what search_paths reads, from the model's graph of the detector -/
def graphOf (g : DGraph) : PyView.PyGraph :=
  { validated := g.validated, isLeaf := g.isLeaf, isCallsub := g.isCallsub, isRetsub := g.isRetsub,
    calledSub := fun b => (g.calledSub b).getD "", retPoint := g.retPoint,
    nextGlobal := fun b => if g.isCallsub b then (match (g.calledSub b).bind g.subEntry with | some e => [e] | none => []) else g.next b }

/-- every call site names a subroutine with an entry block, and no block is a call site and a `retsub` block at once
    (for `mkDGraph`, `mkDGraph_calls` gives the second and that a call site names a subroutine; that the subroutine is among
    the function's subroutines is a premise) -/
structure CallsOK (g : DGraph) : Prop where
  resolves : ∀ b, g.isCallsub b = true → ∃ s e, g.calledSub b = some s ∧ g.subEntry s = some e
  exclusive : ∀ b, g.isCallsub b = true → g.isRetsub b = false

/-- the loop over the successors, as the fold `PyLoops.forIn_foldlM` makes of it -/
theorem loop_tie (sat : List Nat → Bool) (f : Nat → Option (List (List Nat))) (l : List Nat) (acc : List (List Nat)) :
    l.foldlM (fun r nb => (f nb).map fun ps => r ++ ps.filter sat) acc = (collect f l).map fun ps => acc ++ ps.filter sat := by
  induction l generalizing acc with
  | nil => simp [collect]
  | cons x xs ih =>
    rw [List.foldlM_cons, collect]
    cases f x with
    | none => rfl
    | some r =>
      refine (ih (acc ++ r.filter sat)).trans ?_
      cases collect f xs with
      | none => rfl
      | some rs => simp only [Option.map_some, List.filter_append, List.append_assoc]

@[simp] theorem go_validated (g : DGraph) : (graphOf g).validated = g.validated := rfl
@[simp] theorem go_isLeaf (g : DGraph) : (graphOf g).isLeaf = g.isLeaf := rfl
@[simp] theorem go_isCallsub (g : DGraph) : (graphOf g).isCallsub = g.isCallsub := rfl
@[simp] theorem go_isRetsub (g : DGraph) : (graphOf g).isRetsub = g.isRetsub := rfl
@[simp] theorem go_retPoint (g : DGraph) : (graphOf g).retPoint = g.retPoint := rfl
theorem go_calledSub (g : DGraph) (b : Nat) : (graphOf g).calledSub b = (g.calledSub b).getD "" := rfl
theorem go_nextGlobal (g : DGraph) (b : Nat) : (graphOf g).nextGlobal b =
    if g.isCallsub b then (match (g.calledSub b).bind g.subEntry with | some e => [e] | none => []) else g.next b := rfl

/-- `search_paths`, with the shared result list threaded through as `acc`, appends the model's paths that satisfy the report
    condition, in the model's order, and raises exactly when the model does -/
theorem search_tie (g : DGraph) (hg : CallsOK g) (sat : List Nat → Bool) (fuel bb : Nat) (path : List Nat)
    (acc : List (List Nat)) (cs : List Frame) (exe : List (List Nat)) :
    Generated.searchPaths (graphOf g) sat fuel bb path acc cs exe =
      (searchPaths g fuel bb path cs exe).map (fun ps => acc ++ ps.filter sat) := by
  induction fuel generalizing bb path acc cs exe with
  | zero => rfl
  | succ fuel ih =>
    -- the tests in the order in which the Python and the model make them; at a call site `hg` names the subroutine and its entry,
    -- so the model's two failing branches do not arise
    unfold Generated.searchPaths searchPaths
    by_cases hloop : (exe.getLast?.getD []).contains bb = true
    · simp only [hloop, ↓reduceIte, Option.map_some, List.filter_nil, List.append_nil, Option.pure_def]
    by_cases hval : g.validated bb = true
    · simp only [hloop, hval, go_validated, Bool.false_eq_true, ↓reduceIte, Option.map_some, List.filter_nil, List.append_nil, Option.pure_def]
    by_cases hleaf : g.isLeaf bb = true
    · simp only [hloop, hval, hleaf, go_validated, go_isLeaf, Bool.false_eq_true, ↓reduceIte]
      cases h : sat (path ++ [bb]) <;> simp [h]
    by_cases hcall : g.isCallsub bb = true
    · obtain ⟨s, e, hs, he⟩ := hg.resolves bb hcall
      simp only [hloop, hval, hleaf, hcall, hs, he, hg.exclusive bb hcall, go_validated, go_isLeaf, go_isCallsub, go_isRetsub,
        go_calledSub, go_nextGlobal, ih, Bool.false_eq_true, ↓reduceIte, Option.getD_some, Option.bind_some,
        bind_pure_comp, forIn_foldlM, List.foldlM_cons, List.foldlM_nil, bind_pure]
      by_cases hrec : (cs.map Prod.snd).contains s = true
      · simp only [hrec, ↓reduceIte, Option.map_some, List.filter_nil, List.append_nil, Option.pure_def]
      · simp only [hrec, Bool.false_eq_true, ↓reduceIte]
    by_cases hret : g.isRetsub bb = true
    · simp only [hloop, hval, hleaf, hcall, hret, go_validated, go_isLeaf, go_isCallsub, go_isRetsub, go_retPoint, ih,
        Bool.false_eq_true, ↓reduceIte, bind_pure]
      rcases cs.getLast? with _ | ⟨_ | cb, s⟩
      · rfl
      · rfl
      · cases h : g.retPoint cb <;>
          simp only [h, Option.bind_eq_bind, Option.bind_some, Option.isSome_some, Option.isSome_none, Bool.not_true, Bool.false_eq_true,
            ↓reduceIte, Option.getD_some, Option.map_some, List.filter_nil, List.append_nil, Option.pure_def]
    · simp only [hloop, hval, hleaf, hcall, hret, go_validated, go_isLeaf, go_isCallsub, go_isRetsub, go_nextGlobal, ih,
        Bool.false_eq_true, ↓reduceIte, bind_pure_comp, forIn_foldlM, bind_pure]
      exact loop_tie sat _ _ acc

/-- in the graph a detector searches (`mkDGraph`), a call site is not a `retsub` block and names its subroutine -/
theorem mkDGraph_calls (f : Function) (validated : Nat → Bool) (b : Nat) (h : (mkDGraph f validated).isCallsub b = true) :
    (mkDGraph f validated).isRetsub b = false ∧ ∃ s, (mkDGraph f validated).calledSub b = some s := by
  simp only [mkDGraph] at h ⊢
  unfold FBlock.isCallsub at h
  unfold FBlock.isRetsub FBlock.calledSub
  split at h
  · next l hl =>
    rw [hl]
    exact ⟨rfl, l, rfl⟩
  · cases h

end Tealer.TieS
