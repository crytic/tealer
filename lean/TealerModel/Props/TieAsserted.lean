/-
  Tie between the hand-written model of the recursion over condition trees (Ast.flattenAst, Generic.getAsserted) and the
  functions regenerated from /repo's Python on every run (Generated/Asserted.lean: _flatten_ast, compute_equations,
  DataflowTransactionContext._get_asserted).  The Python recursion is unbounded; the translation is bounded by fuel and
  returns `none` when it runs out.  The theorems say: on every stack AST whose references point backwards (which is every
  AST `construct_stack_ast` builds: `backward_constructAst`) and with enough fuel on both sides, the translated Python
  returns `some` of exactly what the model computes.
-/
import TealerModel.Generated.Asserted
import TealerModel.Props.TieFlow
import TealerModel.Lemmas.Asserted
import TealerModel.Lemmas.PyLoops
namespace Tealer.TieA
open PyView TieM TieF PyLoops

variable {D : Type} [DecidableEq D]

/-- every operand reference of instruction `p` names an earlier instruction of the block -/
def Backward (a : Ast) : Prop := ∀ p, ∀ c ∈ a.argsOf p, ∀ q, c = some q → q.1 < p

theorem backward_constructAst (ins : List Ins) : Backward (constructAst ins) := by
  intro p c hc
  by_cases hp : p < ins.length
  · rw [OperandValues.argsOf_constructAst ins p hp] at hc
    exact fun q hq => (OperandValues.argsAt_cells ins p c hc q.1 q.2 hq).1
  · rw [OperandValues.argsOf_constructAst_of_le ins p (Nat.le_of_not_lt hp)] at hc
    cases hc

/-- the stack value the Python holds for a reference (whole tree below it) -/
def full (a : Ast) : Ref → PySV
  | none => .unknown
  | some (q, o) => treeOf a (q + 1) (some (q, o))

/-- `bound r ≤ n`: the position `r` names, if any, is below `n` -/
def bound : Ref → Nat
  | none => 0
  | some q => q.1 + 1

theorem Backward.bound {a : Ast} (hB : Backward a) {p : Nat} {c : Ref} (hc : c ∈ a.argsOf p) : bound c ≤ p := by
  cases c with
  | none => exact Nat.zero_le p
  | some q => exact hB p _ hc q rfl

/-- below a backward AST a tree deeper than the position of its root is the whole tree -/
theorem tree_full (a : Ast) (hB : Backward a) (n : Nat) (r : Ref) (h : bound r ≤ n) : treeOf a n r = full a r := by
  induction n using Nat.strongRecOn generalizing r with
  | _ n ih =>
    rcases r with _ | ⟨q, o⟩
    · exact treeOf_none a n
    · obtain ⟨k, rfl⟩ := Nat.exists_eq_add_of_lt h
      -- both sides are the node at `q` over its operands, read at depth `q + k` and at depth `q`; the operands lie below `q`
      simp only [full, treeOf]
      congr 1
      refine List.map_congr_left fun c hc => ?_
      have hc := hB.bound hc
      exact (ih (q + k) (Nat.lt_succ_self _) c (Nat.le_add_right_of_le hc)).trans
        (ih q (Nat.lt_succ_of_le (Nat.le_add_right q k)) c hc).symm

theorem full_unfold (a : Ast) (hB : Backward a) (q o : Nat) :
    full a (some (q, o)) = .known q (a.opOf q) (a.textOf q) ((a.argsOf q).map (full a)) := by
  simp only [full, treeOf]
  congr 1
  exact List.map_congr_left fun c hc => tree_full a hB q c (hB.bound hc)

theorem full_isUnknown (a : Ast) (r : Ref) : (full a r).isUnknown = r.isNone := by
  cases r <;> rfl

theorem full_instruction (a : Ast) (q o : Nat) : (full a (some (q, o))).instruction = a.opOf q := rfl

theorem full_arg (a : Ast) (hB : Backward a) (q o i : Nat) :
    (full a (some (q, o))).arg i = full a ((a.argsOf q).getD i none) := by
  rw [full_unfold a hB]
  simp only [PySV.arg, List.getD_eq_getElem?_getD, List.getElem?_map]
  cases (a.argsOf q)[i]? <;> rfl

/-- the class name the Python passes for a node operator -/
def clsOf : Op → String | .and => "And" | .or => "Or" | _ => ""

theorem isClass_cls (node op : Op) (hn : node = .and ∨ node = .or) : isClass op (clsOf node) = (op == node) := by
  rcases hn with rfl | rfl
  · exact isAnd_eq op
  · exact isOr_eq op

theorem node_args {a : Ast} (hA : Arity a) {node : Op} (hn : node = .and ∨ node = .or) {p : Nat} (hop : a.opOf p = node) :
    ∃ l r, a.argsOf p = [l, r] :=
  hA.args2 (by rw [hop]; rcases hn with rfl | rfl <;> rfl)

theorem flattenPy_leaf (f : Nat) (v : PySV) (cls : String) (h : v.isUnknown = true ∨ isClass v.instruction cls = false) :
    Generated.flattenAstPy (f + 1) v cls = some [v] := by
  rcases h with h | h <;> simp [Generated.flattenAstPy, h]

theorem flattenPy_node (f : Nat) (v : PySV) (cls : String) (hu : v.isUnknown = false) (hc : isClass v.instruction cls = true) :
    Generated.flattenAstPy (f + 1) v cls =
      (Generated.flattenAstPy f (v.arg 0) cls).bind fun l => (Generated.flattenAstPy f (v.arg 1) cls).bind fun r => some (l ++ r) := by
  simp [Generated.flattenAstPy, hu, hc]

theorem flatten_ref (a : Ast) (hA : Arity a) (hB : Backward a) (node : Op) (hn : node = .and ∨ node = .or) (fm : Nat) (r : Ref) :
    ∀ fp, bound r ≤ fp → bound r ≤ fm →
      Generated.flattenAstPy (fp + 1) (full a r) (clsOf node) = some ((flattenAst a node fm r).map (full a)) := by
  -- the branches of `flattenAst`: out of fuel (1), an unknown reference (2), a `node` with its two operands (3), a `node`
  -- whose argument list is no pair (4, excluded by the arity), any other instruction (5)
  fun_induction flattenAst a node fm r with
  | case1 r =>
    intro fp _ hfm
    cases r with
    | none => exact flattenPy_leaf _ _ _ (.inl rfl)
    | some q => cases hfm
  | case2 m => exact fun fp _ _ => flattenPy_leaf _ _ _ (.inl rfl)
  | case3 m p o hop l r hlr ihl ihr =>
    intro fp hfp hfm
    obtain ⟨f, rfl⟩ := Nat.exists_eq_add_one_of_ne_zero (Nat.ne_zero_of_lt hfp)
    have hl : bound l ≤ p := hB.bound (hlr ▸ List.mem_cons_self)
    have hr : bound r ≤ p := hB.bound (hlr ▸ List.mem_cons_of_mem _ List.mem_cons_self)
    rw [flattenPy_node _ _ _ (full_isUnknown a _) (by rw [full_instruction, isClass_cls node _ hn, hop]), full_arg a hB,
      full_arg a hB, hlr, List.getD_cons_zero, List.getD_cons_succ, List.getD_cons_zero,
      ihl f (Nat.le_trans hl (Nat.le_of_succ_le_succ hfp)) (Nat.le_trans hl (Nat.le_of_succ_le_succ hfm)),
      ihr f (Nat.le_trans hr (Nat.le_of_succ_le_succ hfp)) (Nat.le_trans hr (Nat.le_of_succ_le_succ hfm)), List.map_append]
    rfl
  | case4 m p o hop hlr =>
    obtain ⟨l, r, h⟩ := node_args hA hn (beq_iff_eq.mp hop)
    cases hlr l r h
  | case5 m p o hop =>
    exact fun fp _ _ => flattenPy_leaf _ _ _ (.inr (by rw [full_instruction, isClass_cls node _ hn]; exact Bool.eq_false_iff.mpr hop))

/-- `_flatten_ast` = `flattenAst` (the Python side needs fuel ≥ position + 2, the model fuel ≥ position + 1) -/
theorem flatten_tie (a : Ast) (hA : Arity a) (hB : Backward a) (node : Op) (hn : node = .and ∨ node = .or) :
    ∀ (p o fp fm : Nat), p + 1 < fp → p < fm →
      Generated.flattenAstPy fp (full a (some (p, o))) (clsOf node) = some ((flattenAst a node fm (some (p, o))).map (full a)) := by
  intro p o fp fm hfp hfm
  obtain ⟨f, rfl⟩ := Nat.exists_eq_add_one_of_ne_zero (Nat.ne_zero_of_lt hfp)
  exact flatten_ref a hA hB node hn fm _ f (Nat.le_of_lt_succ hfp) hfm

theorem flatten_root {a : Ast} {node : Op} (m : Nat) {p : Nat} (o : Nat) (hop : a.opOf p = node) {l r : Ref}
    (hlr : a.argsOf p = [l, r]) :
    flattenAst a node (m + 1) (some (p, o)) = flattenAst a node m l ++ flattenAst a node m r := by
  simp [flattenAst, hop, hlr]

theorem flatten_node {a : Ast} (hB : Backward a) {p : Nat} {l r : Ref} (hlr : a.argsOf p = [l, r]) {L R : List Ref}
    (hl : ∀ x ∈ L, bound x ≤ bound l) (hr : ∀ x ∈ R, bound x ≤ bound r) : ∀ x ∈ L ++ R, bound x ≤ p :=
  List.forall_mem_append.mpr
    ⟨fun x hx => Nat.le_trans (hl x hx) (hB.bound (hlr ▸ List.mem_cons_self)),
     fun x hx => Nat.le_trans (hr x hx) (hB.bound (hlr ▸ List.mem_cons_of_mem _ List.mem_cons_self))⟩

theorem flatten_le {a : Ast} (hB : Backward a) (node : Op) (m : Nat) (r : Ref) :
    ∀ x ∈ flattenAst a node m r, bound x ≤ bound r := by
  fun_induction flattenAst a node m r with
  -- a `node` with its two operands; every other branch returns `[r]`
  | case3 m p o hop l r hlr ihl ihr => exact fun x hx => Nat.le_succ_of_le (flatten_node hB hlr ihl ihr x hx)
  | _ => exact List.forall_mem_singleton.mpr (Nat.le_refl _)

/-- the known equations of a node lie below it: the recursive calls of `_get_asserted` are at smaller positions -/
theorem flatten_lt {a : Ast} (hA : Arity a) (hB : Backward a) {node : Op} (hn : node = .and ∨ node = .or) (m : Nat) {p : Nat}
    (o : Nat) (hop : a.opOf p = node) : ∀ q ∈ (flattenAst a node (m + 1) (some (p, o))).filterMap (fun r => r.map (·.1)), q < p := by
  obtain ⟨l, r, hlr⟩ := node_args hA hn hop
  rw [flatten_root m o hop hlr]
  intro q hq
  obtain ⟨x, hx, hxq⟩ := List.mem_filterMap.mp hq
  obtain ⟨y, rfl, rfl⟩ := Option.map_eq_some_iff.mp hxq
  exact flatten_node hB hlr (flatten_le hB node m l) (flatten_le hB node m r) _ hx

theorem equations_tie (a : Ast) (hA : Arity a) (hB : Backward a) (node : Op) (hn : node = .and ∨ node = .or)
    (p o fp fm : Nat) (hfp : p + 1 < fp) (hfm : p < fm) :
    Generated.computeEquationsPy fp (full a (some (p, o))) (clsOf node) =
      some (((flattenAst a node fm (some (p, o))).filterMap fun r => r.map fun q => full a (some q)),
            (flattenAst a node fm (some (p, o))).any isUnknownRef) := by
  unfold Generated.computeEquationsPy
  rw [flatten_tie a hA hB node hn p o fp fm hfp hfm]
  simp only [Option.bind_eq_bind, Option.bind_some, Option.pure_def, List.forIn_map]
  rw [forIn_yield _ _ _ (fun y r => (isUnknownRef r || y.1, y.2 ++ (r.map fun q => full a (some q)).toList))
    fun r _ y => by rcases r with _ | q <;> simp [full_isUnknown, isUnknownRef]]
  rw [foldl_pair _ (fun s r => isUnknownRef r || s) (fun s r => s ++ (r.map fun q => full a (some q)).toList),
    foldl_or_any, foldl_append_filterMap]
  rfl

/-- the known equations as the Python holds them are the trees at the positions the model holds (`full` does not read the
    output index of a reference) -/
theorem known_full (a : Ast) (eqs : List Ref) :
    (eqs.filterMap fun r => r.map fun q => full a (some q)) =
      (eqs.filterMap fun r => r.map (·.1)).map fun q => full a (some (q, 0)) := by
  rw [List.map_filterMap]
  congr 1
  funext r
  cases r <;> rfl

/-- `_get_asserted` = `getAsserted`, given that the leaf matcher `single` is the analysis' `_get_asserted_single`
    (Python fuel ≥ position + 3, model fuel ≥ position + 1) -/
theorem getAsserted_tie (A : Analysis D) (intcs : Option (List Nat)) (a : Ast) (hA : Arity a) (hB : Backward a) (key : Key)
    (E : PyView.Env) (single : Key → PySV → D × D)
    (hs : ∀ q o, single key (full a (some (q, o))) = A.single intcs a key q) :
    ∀ (p o fp fm : Nat), p + 2 < fp → p < fm →
      Generated.getAssertedPy A.dom (A.univ key.base) single E fp key (full a (some (p, o))) =
        some (getAsserted A intcs a key fm p) := by
  intro p
  induction p using Nat.strongRecOn with
  | _ p ih =>
    intro o fp fm hfp hfm
    obtain ⟨f, rfl⟩ := Nat.exists_eq_add_one_of_ne_zero (Nat.ne_zero_of_lt hfp)
    obtain ⟨m, rfl⟩ := Nat.exists_eq_add_one_of_ne_zero (Nat.ne_zero_of_lt hfm)
    have ih' : ∀ q < p, ∀ o', Generated.getAssertedPy A.dom (A.univ key.base) single E f key (full a (some (q, o'))) =
        some (getAsserted A intcs a key m q) := fun q hq o' => ih q hq o' f m
      (Nat.lt_of_lt_of_le (Nat.add_lt_add_right hq 2) (Nat.le_of_lt_succ hfp)) (Nat.lt_of_lt_of_le hq (Nat.le_of_lt_succ hfm))
    -- the part `_get_asserted` has twice, for `&&` and for `||`: `compute_equations`, then the loop over the known equations
    -- (`p1`, `p2`: which of the two sets of an equation goes into the intersection, which into the union), then `k`
    have junction : ∀ (node : Op) (hn : node = .and ∨ node = .or) (hop : a.opOf p = node) (p1 p2 : D × D → D)
        (k : Bool → D × D → Option (D × D)),
        (do let e ← Generated.computeEquationsPy f (full a (some (p, o))) (clsOf node)
            let s ← forIn e.1 (A.univ key.base, A.dom.null) fun eq s => do
              let d ← Generated.getAssertedPy A.dom (A.univ key.base) single E f key eq
              pure (ForInStep.yield (A.dom.inter s.1 (p1 d), A.dom.union s.2 (p2 d)))
            k e.2 s) =
          let eqs := flattenAst a node (m + 1) (some (p, 0))
          let known := eqs.filterMap fun r => r.map (·.1)
          k (eqs.any isUnknownRef)
            (known.foldl (fun acc q => A.dom.inter acc (p1 (getAsserted A intcs a key m q))) (A.univ key.base),
             known.foldl (fun acc q => A.dom.union acc (p2 (getAsserted A intcs a key m q))) A.dom.null) := by
      intro node hn hop p1 p2 k
      -- the model flattens from `(p, 0)`; `full` does not read the output index
      rw [show full a (some (p, o)) = full a (some (p, 0)) from rfl,
        equations_tie a hA hB node hn p 0 f (m + 1) (Nat.lt_of_succ_lt_succ hfp) hfm, known_full]
      simp only [Option.bind_eq_bind, Option.bind_some, Option.pure_def, List.forIn_map]
      rw [forIn_yield _ _ _ (fun s q => (A.dom.inter s.1 (p1 (getAsserted A intcs a key m q)),
          A.dom.union s.2 (p2 (getAsserted A intcs a key m q))))
        fun q hq s => by rw [ih' q (flatten_lt hA hB hn m 0 hop q hq) 0]; rfl]
      rw [foldl_pair _ (fun acc q => A.dom.inter acc (p1 (getAsserted A intcs a key m q)))
        (fun acc q => A.dom.union acc (p2 (getAsserted A intcs a key m q)))]
      rfl
    rw [Generated.getAssertedPy]
    -- the `isinstance` tests become tests on the model's operator.  The Python asks first whether the node is none of `And`,
    -- `Or`, `Not` (a leaf: the last case below), then whether it is `Not`, then `And`; `Or` is what remains
    simp only [full_instruction, isNot_eq, isAnd_eq, isOr_eq]
    cases hnot : a.opOf p == .not
    case true =>
      obtain ⟨r, hr⟩ := hA.args1 (p := p) (by rw [eq_of_beq hnot]; rfl)
      simp only [↓reduceIte, Bool.or_true, Bool.not_true, Bool.false_eq_true, full_arg a hB, hr, List.getD_cons_zero, full_isUnknown]
      simp only [getAsserted, eq_of_beq hnot, hr]
      rcases r with _ | ⟨q, o'⟩
      · rfl
      · rw [if_neg nofun, ih' q (hB.bound (hr ▸ List.mem_cons_self))]
        rfl
    cases hand : a.opOf p == .and
    case true =>
      refine (junction .and (.inl rfl) (eq_of_beq hand) Prod.fst Prod.snd
        fun u s => if u = true then pure (s.1, A.univ key.base) else pure (s.1, s.2)).trans ?_
      simp only [getAsserted, eq_of_beq hand]
      generalize List.any _ isUnknownRef = u
      cases u <;> rfl
    cases hor : a.opOf p == .or
    case true =>
      refine (junction .or (.inr rfl) (eq_of_beq hor) Prod.snd Prod.fst
        fun u s => if u = true then pure (A.univ key.base, s.1) else pure (s.2, s.1)).trans ?_
      simp only [getAsserted, eq_of_beq hor]
      generalize List.any _ isUnknownRef = u
      cases u <;> rfl
    simp only [↓reduceIte, Bool.or_false, Bool.not_false, hs,
      Asserted.getAsserted_leaf A intcs a key _ p (ne_of_beq_false hnot) (ne_of_beq_false hand) (ne_of_beq_false hor)]
    rfl

/-- On every stack value the translated `_block_level_constraints` / `_path_level_constraints` hand to `self._get_asserted`
    (the views `fblockView` / `predView` of TieFlow, depth `n` ≥ the block's length), the translated `_get_asserted`
    returns what the parameter `gaOf` of `block_tie` / `path_tie` stands for: the model's `getAsserted`. -/
theorem gaOf_is_python (A : Analysis D) (intcs : Option (List Nat)) (ins : List Ins) (key : Key) (E : PyView.Env)
    (single : Key → PySV → D × D)
    (hs : ∀ q o, single key (full (constructAst ins) (some (q, o))) = A.single intcs (constructAst ins) key q)
    (n q o : Nat) (hq : q < ins.length) (hn : ins.length ≤ n) :
    Generated.getAssertedPy A.dom (A.univ key.base) single E (ins.length + 3) key (treeOf (constructAst ins) n (some (q, o))) =
      some (gaOf A intcs (constructAst ins) key (ins.length + 1) (treeOf (constructAst ins) n (some (q, o)))) := by
  have hB := backward_constructAst ins
  rw [tree_full _ hB n (some (q, o)) (Nat.lt_of_lt_of_le hq hn)]
  exact getAsserted_tie A intcs _ (arity_constructAst ins) hB key E single hs q o _ _
    (Nat.lt_succ_of_lt (Nat.add_lt_add_right hq 2)) (Nat.lt_succ_of_lt hq)

/-- the premise `hs` for the address analysis: AddrFields._get_asserted_single is `_get_asserted_txn_gtxn`, which is the
    model's `addrSingle` (TieMatchers.addr_tie) -/
theorem single_addr (intcs : Option (List Nat)) (ins : List Ins) (key : Key) (q o : Nat) :
    Generated.getAssertedTxnGtxn (envOf intcs) (envOf intcs) key (full (constructAst ins) (some (q, o))) =
      addrAnalysis.single intcs (constructAst ins) key q := by
  rw [← tree_full _ (backward_constructAst ins) (q + 3) (some (q, o)) (Nat.lt_add_of_pos_right (Nat.succ_pos 2))]
  exact (addr_tie intcs _ (arity_constructAst ins) key q q o).symm

/-- FeeField._get_asserted_single is `_get_asserted_fee`, which is the model's `feeSingle` up to `toG2`, the conversion of the
    model's FeeValue to the translated record (not of the form of the premise `hs`: for that the translated `_get_asserted`
    would have to be instantiated at the translated record type) -/
theorem single_fee (intcs : Option (List Nat)) (ins : List Ins) (key : Key) (q o : Nat) :
    Generated.getAssertedFee (envOf intcs) (envOf intcs) key (full (constructAst ins) (some (q, o))) =
      toG2 (feeAnalysis.single intcs (constructAst ins) key q) := by
  rw [← tree_full _ (backward_constructAst ins) (q + 3) (some (q, o)) (Nat.lt_add_of_pos_right (Nat.succ_pos 2))]
  exact (fee_tie intcs _ (arity_constructAst ins) key q q o).symm

end Tealer.TieA
