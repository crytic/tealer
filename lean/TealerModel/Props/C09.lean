/-
  C09 — Per-block fee bound is an upper bound on every approvable fee.
-/
import TealerModel.Props.TieFlow
import TealerModel.Props.Common
import TealerModel.Props.Tie
import TealerModel.Props.TieMatchers
import TealerModel.Lemmas.Fee
import TealerModel.Lemmas.EvalRun
import TealerModel.Lemmas.RunValues
namespace Tealer.C09

/-- tie to today's source: the model's lattice operations and operator table are the functions translated from
    fee_field.py's AST on this run, and its constants are the ones imported from /repo -/
theorem C09_tie_source (a b : FeeValue) (c : Cmp) :
    Tie.toG (feeUnion a b) = Generated.feeUnion (Tie.toG a) (Tie.toG b) ∧
    Tie.toG (feeInter a b) = Generated.feeInter (Tie.toG a) (Tie.toG b) ∧
    (Tie.toG (feeAssertedMax c a).1, Tie.toG (feeAssertedMax c a).2) = Generated.feeAssertedMax c (Tie.toG a) ∧
    Generated.MAX_TRANSACTION_COST = MAX_TRANSACTION_COST ∧ Generated.MAX_UINT64 = MAX_UINT64 :=
  ⟨Tie.fee_union_tie a b, Tie.fee_inter_tie a b, Tie.fee_table_tie c a, Tie.maxTransactionCost_tie, Tie.maxUint64_tie⟩

/-- chain lattice: union and intersection over-approximate (and are exact on) the admitted fees -/
theorem C09_union_sound (a b : FeeValue) (fee : Nat) :
    Fee.gamma a fee ∨ Fee.gamma b fee → Fee.gamma (feeUnion a b) fee := Fee.union_sound a b fee

theorem C09_inter_sound (a b : FeeValue) (fee : Nat) :
    Fee.gamma a fee → Fee.gamma b fee → Fee.gamma (feeInter a b) fee := Fee.inter_sound a b fee

theorem C09_inter_exact (a b : FeeValue) (fee : Nat) :
    Fee.gamma (feeInter a b) fee ↔ Fee.gamma a fee ∧ Fee.gamma b fee := Fee.inter_exact a b fee

theorem C09_union_exact (a b : FeeValue) (fee : Nat) :
    Fee.gamma (feeUnion a b) fee ↔ Fee.gamma a fee ∨ Fee.gamma b fee := Fee.union_exact a b fee

/-- operator table: for `Fee op c` (field as first operand), all six operators, every constant and every
    uint64 fee, the true (false) bound admits every fee on which the comparison is true (false) -/
theorem C09_operator_table (op : Cmp) (c fee : Nat) (hfee : fee ≤ MAX_UINT64) :
    (op.eval fee c = true → Fee.gamma (feeAssertedMax op { value := c }).1 fee) ∧
    (op.eval fee c = false → Fee.gamma (feeAssertedMax op { value := c }).2 fee) :=
  Fee.assertedMax_sound op c fee hfee

/-- a single direct check yields exactly the implied bound -/
theorem C09_single_exact :
    (∀ c, (feeAssertedMax .le { value := c }).1 = { value := c }) ∧
    (∀ c, (feeAssertedMax .lt { value := c }).1 = { value := c - 1 }) ∧
    (∀ c, (feeAssertedMax .eq { value := c }).1 = { value := c }) ∧
    (∀ c, (feeAssertedMax .gt { value := c }).2 = { value := c }) ∧
    (∀ c, (feeAssertedMax .ge { value := c }).2 = { value := c - 1 }) :=
  ⟨Fee.single_exact_le, Fee.single_exact_lt, Fee.single_exact_eq, Fee.single_exact_gt_neg, Fee.single_exact_ge_neg⟩

/-- a bound at or below 272000 is credited exactly when every admitted fee is at most the cost bound -/
theorem C09_credit (v : FeeValue) :
    checksField .feeCheck { maxFee := if v.isUnknown then MAX_UINT64 else v.value, maxFeeUnknown := v.isUnknown } = true ↔
      ∀ fee, Fee.gamma v fee → fee ≤ MAX_TRANSACTION_COST := by
  rw [← Fee.feeCheck_iff]
  cases v with | mk u x => cases u <;> simp [checksField]

/-- flow layer: every solution of the reach-out equations is an upper bound along an accepting trace -/
theorem C09_forward_sound (g : Graph) (bc : Nat → FeeValue) (pc : Nat → Nat → FeeValue)
    (rout : List (Nat × FeeValue)) (fee : Nat) (tr : List Nat)
    (ht : Flow.FwdTrace g Fee.gamma feeUniv bc pc fee tr)
    (hsol : ∀ b ∈ tr, getMap rout b feeNull = fwdF feeAnalysis g feeUniv bc pc rout b) :
    ∀ i, i < tr.length → Fee.gamma (getMap rout tr[i]! feeNull) fee :=
  Flow.forward_sound feeLaws g feeUniv bc pc rout fee tr ht hsol

theorem C09_backward_sound (g : Graph) (ctx1 : Nat → FeeValue) (lout : List (Nat × FeeValue))
    (fee : Nat) (tr : List Nat) (ht : Flow.BwdTrace g Fee.gamma ctx1 fee tr)
    (hleaf : ∀ b ∈ tr, g.isLeaf b = true → getMap lout b feeNull = ctx1 b)
    (hsol : ∀ b ∈ tr, getMap lout b feeNull = bwdF feeAnalysis g ctx1 lout b) :
    ∀ i, i < tr.length → Fee.gamma (getMap lout tr[i]! feeNull) fee :=
  Flow.backward_sound feeLaws g ctx1 lout fee tr ht hleaf hsol

/-- operator table, constant as first operand (`int c; txn Fee; op`): the model of the repaired
    `_get_asserted_fee` reads it with the mirrored operator, and the table is sound for it
    (known_findings F02b, fixed: the unmirrored reading gave `int 1000; txn Fee; <` the bound 999) -/
theorem C09_operator_table_const_first (op : Cmp) (c fee : Nat) (hfee : fee ≤ MAX_UINT64) :
    (op.eval c fee = true → Fee.gamma (feeAssertedMax op.mirror { value := c }).1 fee) ∧
    (op.eval c fee = false → Fee.gamma (feeAssertedMax op.mirror { value := c }).2 fee) := by
  have := Fee.assertedMax_sound op.mirror c fee hfee
  rwa [Cmp.mirror_eval] at this

/-- the unmirrored reading really is unsound (regression witness of F02b) -/
theorem C09_unmirrored_unsound :
    ¬ (∀ (op : Cmp) (c fee : Nat), fee ≤ MAX_UINT64 →
        (op.eval c fee = true → Fee.gamma (feeAssertedMax op { value := c }).1 fee)) := by
  intro h
  have := h .lt 1000 2000 (by decide) (by decide)
  revert this; decide

example : Cmp.le.eval 1000 272000 = true ∧ Fee.gamma (feeAssertedMax .le { value := 272000 }).1 1000 := by decide

/-- the fee leaf against the concrete semantics: in a straight run of a block of the concrete machine, a comparison
    instruction whose reconstructed operands (construct_stack_ast) are the outputs of a `txn Fee` and of an `int n` pushes a
    non-zero value exactly when `fee op n` holds for the fee of the transaction being approved; hence that fee lies in the
    true side of the operator table when the pushed value is non-zero and in the false side when it is zero.  This is the
    leaf premise of `C01_asserted_of_run` for the direct check `txn Fee; int n; op`. -/
theorem C09_leaf_concrete (prog : List Ins) (e : Avm.Env) (blockIns : List Ins) (pc0 : Nat) (st : Nat → Avm.State) (k : Nat)
    (hrun : OperandValues.BlockRun prog e blockIns pc0 k st) (valOf : Nat × Nat → Avm.Val)
    (hout : ∀ j, j < k → ∀ i, i < (blockIns[j]!).op.pushes →
      (st (j + 1)).stack[(st j).stack.length - (blockIns[j]!).op.pops + i]? = some (valOf (j, i)))
    (hargs : ∀ j, j < k → List.Forall₂ (OperandValues.Agree valOf) (OperandValues.argsAt blockIns j)
      ((st j).stack.drop ((st j).stack.length - (blockIns[j]!).op.pops)))
    (p p1 p2 : Nat) (c : Cmp) (n : Nat) (hp : p < k) (hp1 : p1 < k) (hp2 : p2 < k)
    (hopp : (blockIns[p]!).op = .cmp c) (hop1 : (blockIns[p1]!).op = .txn "Fee") (hop2 : (blockIns[p2]!).op = .int (.lit n))
    (hargsp : OperandValues.argsAt blockIns p = [some (p1, 0), some (p2, 0)]) :
    ∃ fee, e.field e.self "Fee" = some (.int fee) ∧ EvalRun.truthy (valOf (p, 0)) = c.eval fee n ∧
      (fee ≤ MAX_UINT64 →
        (EvalRun.truthy (valOf (p, 0)) = true → Fee.gamma (feeAssertedMax c { value := n }).1 fee) ∧
        (EvalRun.truthy (valOf (p, 0)) = false → Fee.gamma (feeAssertedMax c { value := n }).2 fee)) := by
  have R : OperandValues.Realised prog e blockIns pc0 k st valOf := ⟨hrun, hout, hargs⟩
  obtain ⟨fee, h1, hv⟩ := R.val_cmp hp hopp hargsp (R.val_int hp2 hop2)
  have ht : EvalRun.truthy (valOf (p, 0)) = c.eval fee n := by rw [hv, EvalRun.truthy_b2n]
  refine ⟨fee, h1 ▸ R.val_txn hp1 hop1, ht, fun hle => ?_⟩
  rw [ht]
  exact Fee.assertedMax_sound c n fee hle

/-- the tool's leaf matcher on the direct check `txn Fee; int n; op` (field first, literal second, own transaction): it
    returns the operator table's entry for `op` and `n` -/
theorem feeSingle_direct (ic : Option (List Nat)) (a : Ast) (p p1 p2 o1 o2 : Nat) (c : Cmp) (n : Nat)
    (hp : a.opOf p = .cmp c) (hargs : a.argsOf p = [some (p1, o1), some (p2, o2)])
    (h1 : a.opOf p1 = .txn "Fee") (h2 : a.opOf p2 = .int (.lit n)) :
    feeSingle ic a ⟨"Fee", .self⟩ p = feeAssertedMax c { value := n } := by
  have hm : valueMatchesKey ic a ⟨"Fee", .self⟩ (some (p1, o1)) = true := by
    unfold valueMatchesKey getIndexAndField
    simp [h1]
  have hlit : intLit ic (a.opOf p2) = some n := h2 ▸ rfl
  unfold feeSingle
  simp [hp, hargs, hm, hlit]

/-- the leaf premise, discharged for direct fee checks: the hypothesis "the leaf matcher is sound for the actual truth of the
    leaf" of `C01_asserted_of_run` / `C01_block_constraint_of_run` holds, for the key Fee, at every comparison of a straight
    run whose stack-AST operands are a `txn Fee` and an `int n`: the tool's `_get_asserted_fee` returns the operator table's
    entry (`feeSingle_direct`) and the approved fee is on the side the AVM's pushed value selects (`C09_leaf_concrete`). -/
theorem C09_leaf_premise_direct (prog : List Ins) (e : Avm.Env) (blockIns : List Ins) (pc0 : Nat) (st : Nat → Avm.State)
    (k : Nat) (hrun : OperandValues.BlockRun prog e blockIns pc0 k st) (valOf : Nat × Nat → Avm.Val)
    (hout : ∀ j, j < k → ∀ i, i < (blockIns[j]!).op.pushes →
      (st (j + 1)).stack[(st j).stack.length - (blockIns[j]!).op.pops + i]? = some (valOf (j, i)))
    (hargs : ∀ j, j < k → List.Forall₂ (OperandValues.Agree valOf) (OperandValues.argsAt blockIns j)
      ((st j).stack.drop ((st j).stack.length - (blockIns[j]!).op.pops)))
    (ic : Option (List Nat)) (p p1 p2 : Nat) (c : Cmp) (n : Nat) (hp : p < k) (hp1 : p1 < k) (hp2 : p2 < k)
    (hopp : (blockIns[p]!).op = .cmp c) (hop1 : (blockIns[p1]!).op = .txn "Fee") (hop2 : (blockIns[p2]!).op = .int (.lit n))
    (hargsp : OperandValues.argsAt blockIns p = [some (p1, 0), some (p2, 0)]) :
    ∃ fee, e.field e.self "Fee" = some (.int fee) ∧
      (fee ≤ MAX_UINT64 →
        (EvalRun.truthy (valOf (p, 0)) = true → Fee.gamma (feeSingle ic (constructAst blockIns) ⟨"Fee", .self⟩ p).1 fee) ∧
        (EvalRun.truthy (valOf (p, 0)) = false → Fee.gamma (feeSingle ic (constructAst blockIns) ⟨"Fee", .self⟩ p).2 fee)) := by
  obtain ⟨fee, hfee, _, hside⟩ :=
    C09_leaf_concrete prog e blockIns pc0 st k hrun valOf hout hargs p p1 p2 c n hp hp1 hp2 hopp hop1 hop2 hargsp
  have hl : ∀ {q}, q < k → q < blockIns.length := fun h => Nat.lt_of_lt_of_le h hrun.len
  rw [feeSingle_direct ic (constructAst blockIns) p p1 p2 0 0 c n
    ((OperandValues.opOf_constructAst blockIns p (hl hp)).trans hopp)
    ((OperandValues.argsOf_constructAst blockIns p (hl hp)).trans hargsp)
    ((OperandValues.opOf_constructAst blockIns p1 (hl hp1)).trans hop1)
    ((OperandValues.opOf_constructAst blockIns p2 (hl hp2)).trans hop2)]
  exact ⟨fee, hfee, hside⟩

/-- the matcher is the Python's: `_get_asserted_fee` — operand classification, the `field_is_second_operand` test and the
    mirrored comparison (`_MIRRORED_COMPARISON` read from the module) — translated statement by statement from /repo's
    Python on this run, computes exactly the model's `feeSingle` on the stack value the Python holds -/
theorem C09_tie_matcher (intcs : Option (List Nat)) (ins : List Ins) (key : Key) (n p o : Nat) :
    TieM.toG2 (feeSingle intcs (constructAst ins) key p) =
      Generated.getAssertedFee (TieM.envOf intcs) (TieM.envOf intcs) key (treeOf (constructAst ins) (n + 3) (some (p, o))) :=
  TieM.fee_tie intcs _ (TieM.arity_constructAst ins) key n p o

/-- the block-level constraint of this analysis is computed by the Python's own `_block_level_constraints`, translated on this
    run (instance of `TieF.block_tie`; edge constraints and transfer functions: `C01_tie_constraints`, `C01_tie_transfer_functions`) -/
theorem C09_tie_block_constraint (intcs : Option (List Nat)) (b : FBlock) (key : Key) (n : Nat) :
    blockConstraint feeAnalysis intcs b key =
      Generated.blockLevelConstraints (TieM.envOf intcs) feeAnalysis.dom (feeAnalysis.univ key.base)
        (TieF.gaOf feeAnalysis intcs (constructAst b.ins) key (b.ins.length + 1)) (TieM.envOf intcs) key (TieF.fblockView b n) :=
  TieF.block_tie feeAnalysis intcs b key n

end Tealer.C09
