/-
  Tie between the hand-written model and the definitions regenerated from /repo's Python source on every run
  (Generated/Leaf.lean: translated from the AST; Generated/Consts.lean: read from the imported modules).
  If the Python of a leaf function or a constant changes meaning, these theorems stop checking.
-/
import TealerModel.Generated.Leaf
import TealerModel.Generated.Consts
import TealerModel.Dom
import TealerModel.PyView
namespace Tealer.Tie

def toG (v : FeeValue) : Generated.GFeeValue := { isUnknown := v.isUnknown, value := v.value }

/-- `toG` goes through the Python's tests: the two functions are the same decision tree -/
theorem fee_union_tie (a b : FeeValue) : toG (feeUnion a b) = Generated.feeUnion (toG a) (toG b) := by
  unfold feeUnion Generated.feeUnion
  simp only [apply_ite toG, decide_eq_true_eq]
  rfl

theorem fee_inter_tie (a b : FeeValue) : toG (feeInter a b) = Generated.feeInter (toG a) (toG b) := by
  unfold feeInter Generated.feeInter
  simp only [apply_ite toG, decide_eq_true_eq]
  rfl

theorem fee_table_tie (c : Cmp) (v : FeeValue) :
    (toG (feeAssertedMax c v).1, toG (feeAssertedMax c v).2) = Generated.feeAssertedMax c (toG v) := by
  cases v with | mk u x =>
  cases c <;> cases u
  -- the two sides evaluate to the same pair (for `<` and `>=` of a known value the Python clamps `value - 1` at 0, which truncated
  -- subtraction does already)
  all_goals rfl

/-- `_get_asserted_int_values` as translated from the Python AST agrees with the model on every duplicate-free universal
    set (the Python removes the first occurrence of the compared value for `!=`; the model filters) -/
theorem int_asserted_tie (c : Cmp) (n : Nat) (U : List Nat) (hU : U.Nodup) :
    assertedIntValues c n U = Generated.intAssertedValues c n U := by
  cases c
  case neq =>
    -- erasing a value that is not there changes nothing, so the Python's membership test is immaterial
    have : (if U.contains n = true then U.erase n else U) = U.erase n := by
      split
      · rfl
      next h => exact (List.erase_of_not_mem (by simpa using h)).symm
    exact (hU.erase_eq_filter n).symm.trans this.symm
  all_goals rfl

/-- the universal sets the analysis passes to it are duplicate-free -/
theorem int_universes_nodup : sizesU.Nodup ∧ indicesU.Nodup :=
  ⟨List.Pairwise.map _ (fun _ _ h e => h (Nat.add_right_cancel e)) List.nodup_range, List.nodup_range⟩

/-- the address lattice operations of the model are the functions translated on this run from AddrFields._union /
    _intersection (with its `_universal_set()` / `_null_set()` translated in place) -/
theorem addr_union_tie (a b : AddrSet) : addrUnion a b = Generated.addrUnion a b := by
  rfl

theorem addr_inter_tie (a b : AddrSet) : addrInter a b = Generated.addrInter a b := by
  rfl

/-- the integer-set and transaction-kind lattices use Python's `|` and `&` -/
theorem set_ops_tie (a b : NatSet) :
    natSetDomain.union a b = Generated.intUnion a b ∧ natSetDomain.inter a b = Generated.intInter a b ∧
    natSetDomain.union a b = Generated.txnTypeUnion a b ∧ natSetDomain.inter a b = Generated.txnTypeInter a b :=
  ⟨rfl, rfl, rfl, rfl⟩

/-- the address a comparison operand denotes: the model's `assertedAddress` is the function translated on this run from
    AddrFields._get_asserted_address (instruction classes mapped to the model's constructors) -/
theorem addr_asserted_tie (op : Op) (text : String) : assertedAddress op text = Generated.addrAsserted op text := by
  unfold assertedAddress Generated.addrAsserted
  split
  · rw [if_pos (beq_self_eq_true _)]; rfl
  · rfl
  · rw [if_neg (by simp only [beq_iff_eq, Op.global.injEq, String.reduceEq, not_false_eq_true]), if_pos (beq_self_eq_true _)]; rfl
  next h1 h2 h3 =>
    rw [if_neg (by simpa using h1)]
    split
    · exact absurd rfl (h2 _)
    · rw [if_neg (by simpa using h3)]; rfl

/-! The constants read from the imported Python modules on this run are the model's. -/
theorem maxTransactionCost_tie : Generated.MAX_TRANSACTION_COST = MAX_TRANSACTION_COST := rfl
theorem maxUint64_tie : Generated.MAX_UINT64 = MAX_UINT64 := rfl
theorem maxGroupSize_tie : Generated.MAX_GROUP_SIZE = MAX_GROUP_SIZE := rfl
theorem zeroAddress_tie : Generated.ZERO_ADDRESS = ZERO_ADDRESS := rfl
theorem sizesU_tie : Generated.sizesU = sizesU := rfl
theorem indicesU_tie : Generated.indicesU = indicesU := rfl
theorem allTypes_tie : OSet.ofList Generated.ALL_TRANSACTION_TYPES = ALL_TRANSACTION_TYPES := rfl
theorem txnTypeU_tie : OSet.ofList Generated.txnTypeU = ALL_TRANSACTION_TYPES := rfl
theorem appTypes_tie : OSet.ofList Generated.APPLICATION_TRANSACTION_TYPES = APPLICATION_TRANSACTION_TYPES := rfl
theorem typeEnumTypes_tie : OSet.ofList Generated.TYPEENUM_TRANSACTION_TYPES = TYPEENUM_TRANSACTION_TYPES := rfl
theorem addrMarkers_tie : Generated.addrMarkers = [ANY_ADDRESS, NO_ADDRESS, SOME_ADDRESS, CREATOR_ADDRESS] := rfl
theorem addrBaseKeys_tie : Generated.addrBaseKeys = addrAnalysis.baseKeys := rfl
theorem feeBaseKeys_tie : Generated.feeBaseKeys = feeAnalysis.baseKeys := rfl
theorem intBaseKeys_tie : Generated.intBaseKeys = groupIndicesAnalysis.baseKeys := rfl

theorem consts_tie :
    Generated.MAX_TRANSACTION_COST = MAX_TRANSACTION_COST ∧ Generated.MAX_UINT64 = MAX_UINT64 ∧
    Generated.MAX_GROUP_SIZE = MAX_GROUP_SIZE ∧ Generated.ZERO_ADDRESS = ZERO_ADDRESS ∧
    Generated.sizesU = sizesU ∧ Generated.indicesU = indicesU ∧
    OSet.ofList Generated.ALL_TRANSACTION_TYPES = ALL_TRANSACTION_TYPES ∧
    OSet.ofList Generated.txnTypeU = ALL_TRANSACTION_TYPES ∧
    OSet.ofList Generated.APPLICATION_TRANSACTION_TYPES = APPLICATION_TRANSACTION_TYPES ∧
    OSet.ofList Generated.TYPEENUM_TRANSACTION_TYPES = TYPEENUM_TRANSACTION_TYPES ∧
    Generated.addrMarkers = [ANY_ADDRESS, NO_ADDRESS, SOME_ADDRESS, CREATOR_ADDRESS] ∧
    Generated.addrBaseKeys = addrAnalysis.baseKeys ∧ Generated.feeBaseKeys = feeAnalysis.baseKeys ∧
    Generated.intBaseKeys = groupIndicesAnalysis.baseKeys :=
  ⟨maxTransactionCost_tie, maxUint64_tie, maxGroupSize_tie, zeroAddress_tie, sizesU_tie, indicesU_tie, allTypes_tie, txnTypeU_tie,
    appTypes_tie, typeEnumTypes_tie, addrMarkers_tie, addrBaseKeys_tie, feeBaseKeys_tie, intBaseKeys_tie⟩

/-- the two name/number tables of teal_enums.py agree with the model's -/
theorem enum_tables_tie :
    (Generated.oncompletionTable.all fun (n, l) => oncompletionToType (.lit n) == some l) = true ∧
    (Generated.typeEnumTable.all fun (n, l) => typeToType (.lit n) == some l) = true ∧
    (Generated.oncompletionNames.all fun (n, l) => oncompletionToType (.named n) == some l) = true ∧
    (Generated.typeEnumNames.all fun (n, l) => typeToType (.named n) == some l) = true := by
  decide +kernel

/-- The views read `isinstance` right: the sub-class table of the instruction and field classes the analyses test with
    `isinstance`, read from /repo's modules on this run, is the specification's (every class stands alone but `IntcInstruction`).
    A class made a subclass of `Txn` / `Gtxn` / a governed field class - so that the analyses take its reads for reads of the
    governed transaction - changes the table and this stops checking. -/
theorem class_hierarchy_tie : Generated.classHierarchy = PyView.classHierarchySpec := by
  -- a tactic block: when a term `rfl` fails, Lean reports it at the first line of the docstring, which the check maps to the theorem above
  rfl

end Tealer.Tie
