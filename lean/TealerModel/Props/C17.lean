/-
  C17 — Analysis and every output mode complete on every valid contract.
  Every Python operation that can raise is an explicit `Except` / `Option` in the model; proved here: the conditions
  under which those operations do not raise.  Process behaviour (exit status, files, recursion limit) is exercised by
  running the command line in every mode as subprocesses (harness/clichecks.py).
-/
import TealerModel.Detect
namespace Tealer.C17

/-- `list.remove(x)` does not raise ValueError when x is in the list -/
theorem C17_remove_ok (l : List Nat) (x : Nat) (h : x ∈ l) : removeFirst l x = .ok (l.erase x) := by
  simp [removeFirst, h]

/-- a label that occurs in the program resolves (no KeyError in second_pass) -/
theorem C17_label_resolves (ins : List Ins) (l : String) (k : Nat) (h : (l, k) ∈ labelTable ins) :
    ∃ k', lookupLabel (labelTable ins) l = .ok k' := by
  unfold lookupLabel
  cases hf : (labelTable ins).reverse.find? (fun x => x.1 == l) with
  | some x => exact ⟨x.2, rfl⟩
  | none => exact absurd (beq_self_eq_true l) (List.find?_eq_none.mp hf _ (List.mem_reverse.mpr h))

/-- the path search raises only if one of its recursive calls raises or the call stack is inconsistent: on a leaf or a
    validated block it never raises -/
theorem C17_search_leaf (g : DGraph) (fuel bb : Nat) (path : List Nat) (cs : List Frame) (exe : List (List Nat))
    (hl : g.isLeaf bb = true) : (searchPaths g (fuel + 1) bb path cs exe).isSome = true := by
  unfold searchPaths
  by_cases h1 : bb ∈ exe.getLast?.getD []
  · simp [h1]
  · by_cases h2 : g.validated bb = true
    · simp [h1, h2]
    · simp [h1, h2, hl]

/-- collecting over the successors raises iff the search from some successor raises -/
theorem C17_collect_some (f : Nat → Option (List (List Nat))) (nx : List Nat) :
    (collect f nx).isSome = true ↔ ∀ nb ∈ nx, (f nb).isSome = true := by
  induction nx with
  | nil => simp [collect]
  | cons x rest ih =>
    rw [List.forall_mem_cons, ← ih, collect]
    cases f x <;> cases collect f rest <;> simp

end Tealer.C17
