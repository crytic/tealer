/-
  C20 — The regex engine reports exactly the reachable occurrences.
  Proved on the model of _find_instructions: a match is reported at an instruction exactly when the instruction is reachable
  from the start label and the pattern occurs there (`C20_exact`), it lists the matched instructions in order, and every
  covered instruction is reachable.  The match set and the `covered` set are also compared on every run with an independent
  reachability closure (harness/regexcheck.py); `covered` is known to be incomplete at joins (F23).
-/
import TealerModel.Regex
namespace Tealer.C20
open Tealer.Regex

/-- the state on entering an unvisited `cur` -/
def enter (g : IG) (plen cur : Nat) (st : St) : St :=
  { visited := cur :: st.visited
    matches_ := if isMatch g plen 0 (some cur) then st.matches_ ++ [matchList g (plen - 1) cur] else st.matches_
    covered := st.covered }

theorem mem_matches_enter {g : IG} {plen cur : Nat} {st : St} {m : List Nat} : m ∈ (enter g plen cur st).matches_ ↔
    m ∈ st.matches_ ∨ isMatch g plen 0 (some cur) = true ∧ m = matchList g (plen - 1) cur := by
  unfold enter
  split <;> simp [*]

/-- one iteration of the loop over the successors of `cur` -/
def visit (g : IG) (plen fuel cur : Nat) (acc : Bool × St) (nx : Nat) : Bool × St :=
  if acc.2.covered.contains nx then acc else
    let res := find g plen fuel nx acc.2
    if res.1 then (true, { res.2 with covered := cur :: res.2.covered }) else (acc.1, res.2)

theorem find_succ (g : IG) (plen fuel cur : Nat) (st : St) : find g plen (fuel + 1) cur st =
    if st.visited.contains cur then (false, st)
    else (g.next cur).foldl (visit g plen fuel cur) (isMatch g plen 0 (some cur), enter g plen cur st) := by
  rw [find]
  split
  · rfl
  · unfold enter visit
    cases isMatch g plen 0 (some cur) <;> rfl

/-- invariant: every recorded match and every covered instruction is justified -/
def Good (g : IG) (plen s : Nat) (st : St) : Prop :=
  (∀ m ∈ st.matches_, ∃ c, Reach g s c ∧ isMatch g plen 0 (some c) = true ∧ m = matchList g (plen - 1) c) ∧
  (∀ c ∈ st.covered, Reach g s c)

theorem find_good (g : IG) (plen s : Nat) : ∀ fuel cur st, Reach g s cur → Good g plen s st →
    Good g plen s (find g plen fuel cur st).2 := by
  intro fuel
  induction fuel with
  | zero => exact fun _ _ _ h => h
  | succ n ih =>
    intro cur st hr hg
    rw [find_succ]
    split
    · exact hg
    refine List.foldlRecOn (motive := fun (acc : Bool × St) => Good g plen s acc.2) _ _ ⟨fun m hm => ?_, hg.2⟩ ?_
    · rcases mem_matches_enter.mp hm with h | ⟨hit, rfl⟩
      · exact hg.1 m h
      · exact ⟨cur, hr, hit, rfl⟩
    · intro acc h nx hnx
      have := ih nx acc.2 (hr.step cur nx hnx) h
      unfold visit
      split
      · exact h
      · dsimp only
        split
        · exact ⟨this.1, List.forall_mem_cons.mpr ⟨hr, this.2⟩⟩
        · exact this

/-- every reported match starts at an instruction reachable from the start label at which the pattern matches
    (consecutively, in straight-line code), and lists those instructions in order; every covered instruction is
    reachable from the label -/
theorem C20_sound (g : IG) (plen n start : Nat) :
    (∀ m ∈ (matchRegex g plen n start).1, ∃ c, Reach g start c ∧ isMatch g plen 0 (some c) = true ∧ m = matchList g (plen - 1) c) ∧
    (∀ c ∈ (matchRegex g plen n start).2, Reach g start c) :=
  find_good g plen start (n + 1) start {} Reach.refl ⟨nofun, nofun⟩

/-- a match lists its instructions starting with the one it is reported at -/
theorem C20_match_head (g : IG) (k c : Nat) : (matchList g k c).head? = some c := by
  cases k <;> simp [matchList]

example : isMatch { next := fun _ => [], same := fun _ _ => true } 1 0 (some 0) = true := by decide

/-- invariant of the search used for completeness; `G` = the instructions whose successor loop is still running -/
structure Inv (g : IG) (plen n : Nat) (G : Nat → Prop) (st : St) : Prop where
  nodup : st.visited.Nodup
  bound : ∀ v ∈ st.visited, v < n
  cov : ∀ c ∈ st.covered, c ∈ st.visited
  recd : ∀ v ∈ st.visited, isMatch g plen 0 (some v) = true → matchList g (plen - 1) v ∈ st.matches_
  closed : ∀ v ∈ st.visited, ¬ G v → ∀ w ∈ g.next v, w ∈ st.visited

theorem find_complete (g : IG) (plen n : Nat) (hb : ∀ a, a < n → ∀ b ∈ g.next a, b < n) :
    ∀ fuel cur st (G : Nat → Prop), cur < n → Inv g plen n G st → n + 1 ≤ fuel + st.visited.length →
      Inv g plen n G (find g plen fuel cur st).2 ∧ cur ∈ (find g plen fuel cur st).2.visited ∧
        st.visited ⊆ (find g plen fuel cur st).2.visited := by
  intro fuel
  induction fuel with
  | zero =>
    intro cur st G hc hinv hf
    -- pigeonhole: `visited` is duplicate-free and below `n`
    have := hinv.nodup.length_le_of_subset fun x hx => List.mem_range.mpr (hinv.bound x hx)
    rw [List.length_range] at this
    rw [Nat.zero_add] at hf
    exact absurd (Nat.le_trans hf this) (Nat.not_succ_le_self n)
  | succ f ih =>
    intro cur st G hc hinv hf
    rw [find_succ]
    split
    · exact ⟨hinv, List.contains_iff_mem.mp ‹_›, List.Subset.refl _⟩
    rename_i hvis
    have hnd : (cur :: st.visited).Nodup := List.nodup_cons.mpr ⟨mt List.contains_iff_mem.mpr hvis, hinv.nodup⟩
    -- while its successor loop runs, `cur` is exempt from `closed`
    have h1 : Inv g plen n (fun x => G x ∨ x = cur) (enter g plen cur st) :=
      { nodup := hnd
        bound := List.forall_mem_cons.mpr ⟨hc, hinv.bound⟩
        cov := fun c hc' => List.mem_cons_of_mem _ (hinv.cov c hc')
        recd := List.forall_mem_cons.mpr ⟨fun hm => mem_matches_enter.mpr (.inr ⟨hm, rfl⟩),
          fun v hv hm => mem_matches_enter.mpr (.inl (hinv.recd v hv hm))⟩
        closed := List.forall_mem_cons.mpr ⟨fun hG => absurd (.inr rfl) hG,
          fun v hv hG w hw => List.mem_cons_of_mem _ (hinv.closed v hv (fun hg => hG (.inl hg)) w hw)⟩ }
    -- one successor: the invariant is kept (whatever is exempt), nothing visited is forgotten, the successor is visited
    have step : ∀ (G' : Nat → Prop) (acc : Bool × St) (x : Nat), x < n → Inv g plen n G' acc.2 →
        cur :: st.visited ⊆ acc.2.visited →
        Inv g plen n G' (visit g plen f cur acc x).2 ∧ x ∈ (visit g plen f cur acc x).2.visited ∧
          acc.2.visited ⊆ (visit g plen f cur acc x).2.visited := by
      intro G' acc x hlt hacc hsub
      unfold visit
      split
      · exact ⟨hacc, hacc.cov x (List.contains_iff_mem.mp ‹_›), List.Subset.refl _⟩
      · -- the fuel still suffices: everything visited since entering `cur` counts
        have hfuel : n + 1 ≤ f + acc.2.visited.length := by
          have := hnd.length_le_of_subset hsub
          rw [Nat.add_right_comm] at hf
          exact Nat.le_trans hf (Nat.add_le_add_left this f)
        obtain ⟨hi, hx⟩ := ih x acc.2 _ hlt hacc hfuel
        dsimp only
        split
        · exact ⟨{ hi with cov := List.forall_mem_cons.mpr ⟨hx.2 (hsub List.mem_cons_self), hi.cov⟩ }, hx⟩
        · exact ⟨hi, hx⟩
    -- hence the loop over the successors: the same, for all of them
    have key : ∀ (G' : Nat → Prop) (nxs : List Nat) (acc : Bool × St), (∀ x ∈ nxs, x < n) →
        Inv g plen n G' acc.2 → cur :: st.visited ⊆ acc.2.visited →
        Inv g plen n G' (nxs.foldl (visit g plen f cur) acc).2 ∧
          (∀ x ∈ nxs, x ∈ (nxs.foldl (visit g plen f cur) acc).2.visited) ∧
          acc.2.visited ⊆ (nxs.foldl (visit g plen f cur) acc).2.visited := by
      intro G' nxs
      induction nxs with
      | nil => exact fun acc _ h _ => ⟨h, nofun, List.Subset.refl _⟩
      | cons x xs ihx =>
        intro acc hlt hacc hsub
        obtain ⟨hinv', hx, hacc'⟩ := step G' acc x (hlt x List.mem_cons_self) hacc hsub
        obtain ⟨r1, r2, r3⟩ := ihx _ (fun y hy => hlt y (List.mem_cons_of_mem _ hy)) hinv' (hsub.trans hacc')
        exact ⟨r1, List.forall_mem_cons.mpr ⟨r3 hx, r2⟩, hacc'.trans r3⟩
    obtain ⟨r1, r2, r3⟩ := key _ (g.next cur) (_, enter g plen cur st) (hb cur hc) h1 (List.Subset.refl _)
    refine ⟨{ r1 with closed := ?_ }, List.cons_subset.mp r3⟩
    intro v hv hG w hw
    by_cases hvc : v = cur
    · exact r2 w (hvc ▸ hw)
    · exact r1.closed v hv (fun h => h.elim hG hvc) w hw

/-- completeness of the match set: if the instructions reachable from the start label are among the `n` instruction
    positions, every reachable instruction at which the pattern occurs (consecutively, in straight-line code) is reported,
    with its instruction list.  With `C20_sound`: a match is reported at an instruction iff it is reachable and the pattern
    occurs there.  (The `n + 1` fuel the model gives the search is shown sufficient here.) -/
theorem C20_complete (g : IG) (plen n start : Nat) (hs : start < n) (hb : ∀ a, a < n → ∀ b ∈ g.next a, b < n)
    (c : Nat) (hr : Reach g start c) (hm : isMatch g plen 0 (some c) = true) :
    matchList g (plen - 1) c ∈ (matchRegex g plen n start).1 := by
  obtain ⟨hinv, hstart, _⟩ := find_complete g plen n hb (n + 1) start {} (fun _ => False) hs
    ⟨List.nodup_nil, nofun, nofun, nofun, nofun⟩ (Nat.le_refl _)
  refine hinv.recd c ?_ hm
  clear hm
  induction hr with
  | refl => exact hstart
  | step a b _ hab ih => exact hinv.closed a ih id b hab

theorem C20_exact (g : IG) (plen n start : Nat) (hs : start < n) (hb : ∀ a, a < n → ∀ b ∈ g.next a, b < n) (m : List Nat) :
    m ∈ (matchRegex g plen n start).1 ↔
      ∃ c, Reach g start c ∧ isMatch g plen 0 (some c) = true ∧ m = matchList g (plen - 1) c :=
  ⟨(C20_sound g plen n start).1 m, fun ⟨c, hr, hm, e⟩ => e ▸ C20_complete g plen n start hs hb c hr hm⟩

/-- the hypotheses of `C20_exact` on a concrete graph with a loop (0 → 1 → {2, 0}): the one occurrence is reported -/
example :
    let g : IG := { next := fun c => if c == 0 then [1] else if c == 1 then [2, 0] else [], same := fun c k => c == 2 && k == 0 }
    (matchRegex g 1 3 0).1 = [[2]] ∧ (0 < 3) ∧ (List.range 3).all (fun a => (g.next a).all (· < 3)) = true := by decide
end Tealer.C20
