/-
  C19 — Version, mode and cost reporting agree with the AVM specification.
-/
import TealerModel.Generated.ParseTable
import TealerModel.Generated.OpTable
import TealerModel.Spec.OpTable
import TealerModel.Spec.CostTable
namespace Tealer.C19

/-- introduction version and execution mode of every opcode sample equal the specification table -/
theorem C19_versions_modes :
    ((Generated.opTableChunks.map fun ch => ch.map fun (l, _, _, _, _, v, m) => (l, v, m)) ==
    (Spec.opTableChunks.map fun ch => ch.map fun (l, _, _, _, _, v, m) => (l, v, m))) = true :=
  -- both sides unfold to the same literal: no string is ever compared character by character
  beq_iff_eq.mpr rfl

/-- versions are 1..8 (0 for the tool's own pseudo instructions) and modes are Signature / Application / Any -/
theorem C19_ranges :
    Generated.opTableChunks.all (fun ch => ch.all fun (_, _, _, _, _, v, m) => v ≤ 8 && m ≤ 2) = true := by
  decide +kernel

/-- opcode cost under each declared program version 1..8 equals the specification table -/
theorem C19_costs :
    ((Generated.parseTableChunks.map fun ch => ch.map fun (l, _, _, c) => (l, c)) ==
    (Spec.costTableChunks.map fun ch => ch.map fun (l, _, _, c) => (l, c))) = true :=
  beq_iff_eq.mpr rfl

/-- model of _verify_version's flag and of _detect_execution_mode -/
def flagged (declared insVersion : Nat) : Bool := declared < insVersion

def detectMode : List Nat → Nat
  | [] => 2
  | m :: rest => if m != 2 then m else detectMode rest

/-- the contract is classified Any exactly when no instruction is mode specific; otherwise by the first mode-specific one -/
theorem C19_mode_any (ms : List Nat) : detectMode ms = 2 ↔ ∀ m ∈ ms, m = 2 := by
  induction ms with
  | nil => simp [detectMode]
  | cons m rest ih =>
    simp only [detectMode]
    by_cases h : m = 2
    · simp [h, ih]
    · simp [h]

theorem C19_flag_iff (declared insVersion : Nat) : flagged declared insVersion = true ↔ insVersion > declared := by
  simp [flagged]

example : detectMode [2, 0, 1] = 0 := by decide

end Tealer.C19
