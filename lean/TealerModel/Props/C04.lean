/-
  C04 — The CFG is well-formed and over-approximates real control flow.
  Proved on the model of parse_teal's passes (Cfg.lean), including that every step of every execution of the AVM semantics
  is a step of a walk in the graph of passes 3-4 (`C04_execution_walk`); the same is checked on the real tool on every run by
  executing the Lean AVM semantics and walking the tool's graph (harness/engine.py).
-/
import TealerModel.Lemmas.Cfg
import TealerModel.Lemmas.StepEdge
import TealerModel.Lemmas.Mirror
import TealerModel.Lemmas.BlockWalk
import TealerModel.Lemmas.ParseSubs
namespace Tealer.C04

/-- blocks partition the instructions in source order: concatenating the created blocks in creation order
    gives exactly the instruction positions 0 .. n-1 -/
theorem C04_partition (ins : List Ins) (nexts : List (List Nat)) (h : insNext ins = .ok nexts) :
    (createBB ins nexts).1.flatten = List.range ins.length :=
  CfgL.createBB_partition ins nexts (CfgL.insNext_length ins nexts h)

/-- edge order: a new edge goes to the end of the successor list of its source and of the predecessor list
    of its target; fall-through edges (third pass) are therefore listed before jump edges (fourth pass) -/
theorem C04_edge_order (bs : List RawBlock) (a b : Nat) (ha : a < bs.length) (hb : b < bs.length) :
    ((addEdge bs a b)[a]!).next = (bs[a]!).next ++ [b] ∧ ((addEdge bs a b)[b]!).prev = (bs[b]!).prev ++ [a] :=
  ⟨CfgL.addEdge_next bs a b ha, CfgL.addEdge_prev bs a b hb⟩

/-- pruning removes every edge of an unreachable block (repaired in /repo: the loop used to remove from the list it was
    iterating and skipped every other successor, known_findings F09 "fixed").  Regression witness: a dead block with
    two live successors -/
def staleWitness : List Ins :=
  [⟨1, .b "main", ""⟩, ⟨2, .label "dead", ""⟩, ⟨3, .int (.lit 1), ""⟩, ⟨4, .bnz "x", ""⟩,
   ⟨5, .label "main", ""⟩, ⟨6, .int (.lit 1), ""⟩, ⟨7, .label "x", ""⟩, ⟨8, .ret, ""⟩]

theorem C04_prune_witness :
    ∀ t, parseTeal staleWitness = .ok t → ∀ b ∈ t.allBlocks, t.live.contains b.idx → ∀ p ∈ b.prev, t.live.contains p := by
  intro t ht
  have : t = (match parseTeal staleWitness with | .ok t => t | .error _ => default) := by rw [ht]
  subst this
  decide

/-- Successor and predecessor lists mirror each other and never name a block outside the graph — for every program the
    model's `parseTeal` accepts, on the final block list (after the pruning of unreachable blocks):
    * `b` occurs in `next a` exactly as often as `a` occurs in `prev b`;
    * every successor is a block of the list;
    * a block that is not retained has no successor and is named in no predecessor list (the repaired pruning loop, F09);
    * a retained block has the successor list of the graph of passes 3-4 — the graph of `C05_blocks_are_closure`. -/
theorem C04_mirror_wellformed (ins : List Ins) (t : Teal) (h : parseTeal ins = .ok t) :
    ∃ nexts bs, insNext ins = .ok nexts ∧ CfgWF.graphOf ins nexts = .ok bs ∧ t.allBlocks.length = bs.length ∧
      (∀ a b, a < t.allBlocks.length → b < t.allBlocks.length →
        (t.allBlocks[a]!).next.count b = (t.allBlocks[b]!).prev.count a) ∧
      (∀ d, d < t.allBlocks.length → d ∉ t.live →
        (t.allBlocks[d]!).next = [] ∧ ∀ b, b < t.allBlocks.length → d ∉ (t.allBlocks[b]!).prev) ∧
      (∀ x, x ∈ t.live → x < t.allBlocks.length ∧ (t.allBlocks[x]!).next = (bs[x]!).next) ∧
      (∀ a, a < t.allBlocks.length → ∀ b ∈ (t.allBlocks[a]!).next, b < t.allBlocks.length) :=
  Mirror.parse_mirror ins t h

/-- pruning one unreachable block leaves it without successors -/
theorem C04_prune_all (bs : List RawBlock) (bi : Nat) (bs' : List RawBlock) (h : pruneOne bs bi = .ok bs')
    (hbi : bi < bs.length) : (bs'[bi]!).next = [] := by
  rw [((Mirror.pruneOne_get h).2 bi hbi).1, if_pos rfl]

/-- The CFG over-approximates real control flow, instruction level.  Whatever the environment and the machine state, one
    step of the concrete AVM semantics (spec side, Avm.step) from instruction `s.pc` lands
    * on a successor recorded for that instruction by first_pass / second_pass (model side, insNext), or
    * past the last instruction (the program ends there), or
    * for `callsub l`, on the label `l` with the return address pushed — the edge the tool represents by
      `called_subroutine`, or
    * for `retsub`, on the return address popped from the call stack — the edge the tool represents by the return point of
      the matching callsub. -/
theorem C04_step_along_edge (prog : List Ins) (nexts : List (List Nat)) (h : insNext prog = .ok nexts)
    (e : Avm.Env) (s s' : Avm.State) (i : Ins) (hi : prog[s.pc]? = some i)
    (hs : Avm.step prog e s = .next s') :
    s'.pc ∈ nexts[s.pc]!
    ∨ (s'.pc = prog.length ∧ s.pc + 1 = prog.length ∧ i.op.noFallthrough = false)
    ∨ (∃ l, i.op = .callsub l ∧ Avm.labelPos prog l = some s'.pc ∧ s'.calls = s.calls ++ [s.pc + 1])
    ∨ (i.op = .retsub ∧ s.calls.getLast? = some s'.pc ∧ s'.calls = s.calls.dropLast) := by
  obtain ⟨jumps, hj, hn⟩ := StepEdge.insNext_get prog nexts h s.pc i hi
  rcases StepEdge.step_ctl_at hi hs with ⟨hnf, -, hpc, -⟩ | ⟨l, hl, hp, -⟩ | ⟨l, hop, hp, hc⟩ | ⟨hop, hp, hc⟩
  · by_cases hlt : s.pc + 1 < prog.length
    · left; rw [hn, hpc]; simp [hnf, hlt]
    · have := (List.getElem?_eq_some_iff.mp hi).1
      exact .inr (.inl ⟨by omega, by omega, hnf⟩)
  · obtain ⟨y, hy, hf⟩ := ExceptL.mapM_mem hj hl
    cases hf.symm.trans ((StepEdge.labelPos_lookup prog l _).mp hp)
    exact .inl (hn ▸ List.mem_append_right _ hy)
  · exact .inr (.inr (.inl ⟨l, hop, hp, hc⟩))
  · exact .inr (.inr (.inr ⟨hop, hp, hc⟩))

/-- the hypotheses of `C04_step_along_edge` are met by real steps: a taken `bnz` lands on the recorded jump successor -/
example :
    let prog : List Ins := [⟨1, .int (.lit 1), ""⟩, ⟨2, .bnz "x", ""⟩, ⟨3, .err, ""⟩, ⟨4, .label "x", ""⟩, ⟨5, .int (.lit 1), ""⟩]
    (match Avm.step prog { size := 1, self := 0, txns := [⟨[]⟩] } { pc := 1, stack := [.int 1] } with
      | .next s' => s'.pc == 3 | _ => false) = true ∧
    (insNext prog).toOption = some [[1], [2, 3], [], [4], []] := by decide

example : (createBB staleWitness ((insNext staleWitness).toOption.getD [])).1.flatten = List.range 8 := by decide

/-- The block sequence of any concrete execution is a walk in the graph — one step.  For the blocks of the third pass and
    the graph `bs` of passes 3-4 (whose successor lists the retained blocks keep, `C04_mirror_wellformed`): a step of the
    concrete AVM semantics from instruction `s.pc` either
    * stays inside the block (lands on the instruction that follows `s.pc` in its block), or
    * leaves the block at its last instruction and lands in a block that is in its successor list, or
    * runs past the last instruction, or is the call edge of `callsub` (callee label, return address pushed), or the
      return edge of `retsub` (return address popped). -/
theorem C04_block_walk (prog : List Ins) (nexts : List (List Nat)) (bs : List RawBlock) (h : insNext prog = .ok nexts)
    (hg : CfgWF.graphOf prog nexts = .ok bs)
    (e : Avm.Env) (s s' : Avm.State) (i : Ins) (hi : prog[s.pc]? = some i) (hs : Avm.step prog e s = .next s') :
    (∃ blk ∈ (createBB prog nexts).1, BlockShape.Adj blk s.pc s'.pc ∧ s'.pc = s.pc + 1)
    ∨ (∃ B B', blockOfIns (createBB prog nexts).1 s.pc = .ok B ∧ blockOfIns (createBB prog nexts).1 s'.pc = .ok B' ∧
        ((createBB prog nexts).1[B]!).getLast? = some s.pc ∧ B' ∈ (bs[B]!).next)
    ∨ (s'.pc = prog.length ∧ s.pc + 1 = prog.length ∧ i.op.noFallthrough = false)
    ∨ (∃ l, i.op = .callsub l ∧ Avm.labelPos prog l = some s'.pc ∧ s'.calls = s.calls ++ [s.pc + 1])
    ∨ (i.op = .retsub ∧ s.calls.getLast? = some s'.pc ∧ s'.calls = s.calls.dropLast) := by
  rcases C04_step_along_edge prog nexts h e s s' i hi hs with hnext | hrest
  · exact (BlockWalk.block_walk prog nexts bs h hg s.pc i hi s'.pc hnext).imp_right .inl
  · exact .inr (.inr hrest)

/-- A block is entered only at its first instruction: inside a block, an instruction has a predecessor in the block only
    if that predecessor has it as its one successor and does not end a block, and only if it is not a label — so jump
    targets (labels) are always the first instruction of their block -/
theorem C04_block_shape (prog : List Ins) (nexts : List (List Nat)) (h : insNext prog = .ok nexts) :
    ∀ blk ∈ (createBB prog nexts).1, ∀ a b, BlockShape.Adj blk a b →
      nexts[a]! = [a + 1] ∧ b = a + 1 ∧ ((prog[b]!).op).isLabel = false := by
  intro blk hb a b hab
  obtain ⟨h1, h2⟩ := BlockWalk.inner_successor prog nexts h blk hb a b hab
  exact ⟨h1, h2, (BlockShape.createBB_shape prog nexts (CfgL.insNext_length prog nexts h) blk hb a b hab).2⟩

/-- The call edge: a `callsub l` step lands on the instruction the label resolves to, and the block of that instruction is
    the entry block of the subroutine `l` of the parse result — "the callee's entry block after callsub" -/
theorem C04_call_edge (prog : List Ins) (t : Teal) (hp : parseTeal prog = .ok t)
    (e : Avm.Env) (s s' : Avm.State) (i : Ins) (l : String) (hi : prog[s.pc]? = some i) (hop : i.op = .callsub l)
    (hs : Avm.step prog e s = .next s') :
    ∃ nexts sub, insNext prog = .ok nexts ∧ sub ∈ t.subs ∧ sub.name = l ∧
      blockOfIns (createBB prog nexts).1 s'.pc = .ok sub.entry ∧ s'.calls = s.calls ++ [s.pc + 1] := by
  obtain ⟨nexts, _, _, _, hparsed⟩ := ParseSubs.parseTeal_inv prog t hp
  obtain ⟨sub, hsub, hname⟩ := hparsed.sub_of_label l (ParseSubs.mem_callsubLabels.mpr ⟨i, List.mem_of_getElem? hi, hop⟩)
  obtain ⟨_, li, _, _, _, hli, hentry, _, rfl⟩ := hparsed.sub_rec sub hsub
  obtain ⟨hpos, hcalls⟩ := (hop ▸ StepEdge.step_ctl_at hi hs).of_callsub
  cases hname
  cases hli.symm.trans ((StepEdge.labelPos_lookup prog _ _).mp hpos)
  exact ⟨nexts, _, hparsed.nexts_ok, hsub, rfl, hentry, hcalls⟩

/-- The call stack of any reachable state holds only positions that follow a `callsub`: the invariant is preserved by every
    step, and it holds for the empty stack (`C04_calls_invariant_init`). -/
theorem C04_calls_invariant (prog : List Ins) (e : Avm.Env) (s s' : Avm.State) (h : BlockWalk.CallsOk prog s.calls)
    (hs : Avm.step prog e s = .next s') : BlockWalk.CallsOk prog s'.calls :=
  BlockWalk.callsOk_step prog e s s' h hs

theorem C04_calls_invariant_init (prog : List Ins) : BlockWalk.CallsOk prog ({} : Avm.State).calls := by
  intro a ha; cases ha

/-- The return edge.  Under the call-stack invariant a `retsub` step lands — unless it returns past the end of the
    program — in a block that is in the successor list of the block whose last instruction is the matching `callsub`:
    "after retsub the block following the matching callsub". -/
theorem C04_return_edge (prog : List Ins) (nexts : List (List Nat)) (bs : List RawBlock) (h : insNext prog = .ok nexts)
    (hg : CfgWF.graphOf prog nexts = .ok bs)
    (e : Avm.Env) (s s' : Avm.State) (i : Ins) (hi : prog[s.pc]? = some i) (hop : i.op = .retsub)
    (hinv : BlockWalk.CallsOk prog s.calls) (hs : Avm.step prog e s = .next s') :
    s'.pc = prog.length ∨
    ∃ c l ic B B', s'.pc = c + 1 ∧ prog[c]? = some ic ∧ ic.op = .callsub l ∧
      blockOfIns (createBB prog nexts).1 c = .ok B ∧ ((createBB prog nexts).1[B]!).getLast? = some c ∧
      blockOfIns (createBB prog nexts).1 s'.pc = .ok B' ∧ B' ∈ (bs[B]!).next := by
  exact BlockWalk.return_edge prog nexts bs h hg s.calls hinv _ (hop ▸ StepEdge.step_ctl_at hi hs).of_retsub.1

/-- states reachable from the initial state by steps of the concrete semantics -/
inductive Reachable (prog : List Ins) (e : Avm.Env) : Avm.State → Prop
  | init : Reachable prog e {}
  | step (s s' : Avm.State) : Reachable prog e s → Avm.step prog e s = .next s' → Reachable prog e s'

theorem C04_reachable_calls_ok (prog : List Ins) (e : Avm.Env) (s : Avm.State) (h : Reachable prog e s) :
    BlockWalk.CallsOk prog s.calls := by
  induction h with
  | init => exact C04_calls_invariant_init prog
  | step s s' _ hs ih => exact C04_calls_invariant prog e s s' ih hs

/-- The block sequence visited by any concrete execution is a walk in the contract's graph.  For every program the model's
    `parseTeal` accepts, with `bs` the graph of passes 3-4 over the blocks of the third pass (the retained blocks keep its
    successor lists, `C04_mirror_wellformed`): every transition of every execution (any environment, any reachable state)
    * stays inside its block, on the next instruction; or
    * leaves the block at its last instruction for a block of its successor list (fall-through and jump successors of
      b / bz / bnz / switch / match); or
    * runs past the last instruction (the program ends there); or
    * is a `callsub l` and lands in the entry block of subroutine `l`; or
    * is a `retsub` and lands past the end or in a successor of the block ending with the matching `callsub`. -/
theorem C04_execution_walk (prog : List Ins) (t : Teal) (hp : parseTeal prog = .ok t) :
    ∃ nexts bs, insNext prog = .ok nexts ∧ CfgWF.graphOf prog nexts = .ok bs ∧
      ∀ (e : Avm.Env) (s : Avm.State), Reachable prog e s → ∀ (s' : Avm.State) (i : Ins), prog[s.pc]? = some i →
        Avm.step prog e s = .next s' →
        (∃ blk ∈ (createBB prog nexts).1, BlockShape.Adj blk s.pc s'.pc ∧ s'.pc = s.pc + 1)
        ∨ (∃ B B', blockOfIns (createBB prog nexts).1 s.pc = .ok B ∧ blockOfIns (createBB prog nexts).1 s'.pc = .ok B' ∧
            ((createBB prog nexts).1[B]!).getLast? = some s.pc ∧ B' ∈ (bs[B]!).next)
        ∨ (s'.pc = prog.length ∧ s.pc + 1 = prog.length ∧ i.op.noFallthrough = false)
        ∨ (∃ l sub, i.op = .callsub l ∧ sub ∈ t.subs ∧ sub.name = l ∧
            blockOfIns (createBB prog nexts).1 s'.pc = .ok sub.entry ∧ s'.calls = s.calls ++ [s.pc + 1])
        ∨ (i.op = .retsub ∧ (s'.pc = prog.length ∨
            ∃ c l ic B B', s'.pc = c + 1 ∧ prog[c]? = some ic ∧ ic.op = .callsub l ∧
              blockOfIns (createBB prog nexts).1 c = .ok B ∧ ((createBB prog nexts).1[B]!).getLast? = some c ∧
              blockOfIns (createBB prog nexts).1 s'.pc = .ok B' ∧ B' ∈ (bs[B]!).next)) := by
  obtain ⟨nexts, bs, _, _, hparsed⟩ := ParseSubs.parseTeal_inv prog t hp
  have hn := hparsed.nexts_ok
  have hg := hparsed.graph_ok
  refine ⟨nexts, bs, hn, hg, ?_⟩
  intro e s hr s' i hi hs
  refine (C04_block_walk prog nexts bs hn hg e s s' i hi hs).imp_right (Or.imp_right (Or.imp_right (Or.imp ?_ ?_)))
  · rintro ⟨l, hl, -⟩
    obtain ⟨nexts', sub, hn', hsub, hname, hentry, hcalls⟩ := C04_call_edge prog t hp e s s' i l hi hl hs
    cases hn.symm.trans hn'
    exact ⟨l, sub, hl, hsub, hname, hentry, hcalls⟩
  · exact fun ⟨hret, _⟩ =>
      ⟨hret, C04_return_edge prog nexts bs hn hg e s s' i hi hret (C04_reachable_calls_ok prog e s hr) hs⟩

/-- `Reachable` is inhabited beyond the initial state, and the sample program is accepted by `parseTeal` -/
example : Reachable [⟨1, .int (.lit 1), ""⟩, ⟨2, .ret, ""⟩] { size := 1, self := 0, txns := [⟨[]⟩] } { pc := 1, stack := [.int 1] } :=
  Reachable.step _ _ Reachable.init rfl

example : (parseTeal [⟨1, .int (.lit 1), ""⟩, ⟨2, .ret, ""⟩]).toOption.isSome = true := by decide

end Tealer.C04
