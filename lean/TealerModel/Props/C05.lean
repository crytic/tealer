/-
  C05 — Subroutine, call-site and return-point structure is faithful.
-/
import TealerModel.Function
import TealerModel.Lemmas.ParseSubs
namespace Tealer.C05
open Tealer.Reach Tealer.ParseSubs

/-- the labels targeted by callsub instructions, and only those, are subroutines (names of the subroutine table) -/
theorem C05_subs_are_callsub_targets (ins : List Ins) (l : String) :
    l ∈ (callsubTable ins).map (·.1) ↔ ∃ i ∈ ins, i.op = .callsub l := by
  rw [show (callsubTable ins).map (·.1) = callsubLabels ins by simp [callsubTable, Function.comp_def]]
  exact mem_callsubLabels

/-- a callsub block knows the block where execution resumes: the first (only) successor, none if it has none -/
theorem C05_return_point (b : FBlock) : b.retPoint = b.next.head? := rfl

/-- A subroutine's blocks are those reachable from its entry without following calls.  For every program the model's
    `parseTeal` accepts: the graph `bs` of passes 3-4 is well-formed, `__main__` is exactly the closure of block 0 under
    its successor edges, every subroutine is exactly the closure of its entry block, and no block is listed twice.  (A
    `callsub` block's only successor edge is its return point, so the closure does not enter callees.)  The loop's fuel
    — number of blocks + 1 — is shown sufficient inside `Reach.go_spec`. -/
theorem C05_blocks_are_closure (ins : List Ins) (t : Teal) (h : parseTeal ins = .ok t) :
    ∃ nexts bs, insNext ins = .ok nexts ∧ graphOf ins nexts = .ok bs ∧ WF bs ∧
      ((∀ x, x ∈ t.main.blocks ↔ Reach bs 0 x) ∧ t.main.blocks.Nodup ∧ t.main.entry = 0) ∧
      (∀ s ∈ t.subs, (∀ x, x ∈ s.blocks ↔ Reach bs s.entry x) ∧ s.blocks.Nodup ∧ s.entry < bs.length) := by
  obtain ⟨nexts, bs, _, _, hp⟩ := parseTeal_inv ins t h
  have hwf := CfgWF.passes_wf ins nexts bs hp.graph_ok
  refine ⟨nexts, bs, hp.nexts_ok, hp.graph_ok, hwf.1, ?_, fun s hs => ?_⟩
  · rw [hp.main_rec]
    have := identifyBlocks_spec bs 0 hwf.1 (by rw [hwf.2]; exact CfgL.createBB_nonempty ins nexts)
    exact ⟨this.1, this.2, rfl⟩
  · obtain ⟨_, _, eb, _, _, _, heb, _, rfl⟩ := hp.sub_rec s hs
    have hlt : eb < bs.length := by rw [hwf.2]; exact (CfgWF.blockOfIns_ok heb).1
    have := identifyBlocks_spec bs eb hwf.1 hlt
    exact ⟨this.1, this.2, hlt⟩

/-- Each subroutine's caller and return-point tables list exactly its call sites.  A block is in the caller table of `s`
    iff it is retained and contains a `callsub s` instruction; the return points are the single successors of those
    blocks, in the same order; the exit blocks are the blocks without successor or ending in `retsub`; and `s` is the
    target of some callsub. -/
theorem C05_caller_tables (ins : List Ins) (t : Teal) (h : parseTeal ins = .ok t) :
    ∃ nexts bs, insNext ins = .ok nexts ∧ graphOf ins nexts = .ok bs ∧
      ∀ s ∈ t.subs,
        (∀ b, b ∈ s.callers ↔ b ∈ t.live ∧ ∃ k, (∃ i, ins[k]? = some i ∧ i.op = .callsub s.name) ∧
            blockOfIns (createBB ins nexts).1 k = .ok b) ∧
        s.retPoints = s.callers.filterMap (fun c => if (bs[c]!).next.length == 1 then (bs[c]!).next.head? else none) ∧
        s.exits = s.blocks.filter (fun b => (bs[b]!).next.length == 0 || exitOp ins (bs[b]!) == some .retsub) ∧
        s.name ∈ callsubLabels ins := by
  obtain ⟨nexts, bs, reach, _, hp⟩ := parseTeal_inv ins t h
  have hwf := CfgWF.passes_wf ins nexts bs hp.graph_ok
  refine ⟨nexts, bs, hp.nexts_ok, hp.graph_ok, fun s hs => ?_⟩
  obtain ⟨name, _, _, cblocks, hname, _, _, hcb, rfl⟩ := hp.sub_rec s hs
  refine ⟨fun b => ?_, rfl, rfl, hname⟩
  rw [hp.live_eq]
  simp only [subOf, List.mem_filter, List.contains_eq_mem, decide_eq_true_eq]
  constructor
  · rintro ⟨hb, hr⟩
    obtain ⟨k, hk, hfk⟩ := ExceptL.mapM_mem_rev hcb hb
    refine ⟨⟨?_, hr⟩, k, (mem_callPositions ins _ k).mp hk, hfk⟩
    rw [List.mem_range, hwf.2]
    exact (CfgWF.blockOfIns_ok hfk).1
  · rintro ⟨⟨_, hr⟩, k, hk, hfk⟩
    obtain ⟨y, hy, hfy⟩ := ExceptL.mapM_mem hcb ((mem_callPositions ins _ k).mpr hk)
    cases hfk.symm.trans hfy
    exact ⟨hy, hr⟩

/-- the two theorems are not vacuous: a program with a subroutine that has two exits, a live call site and a dead one -/
def sample : List Ins :=
  [⟨1, .pragma 8, ""⟩, ⟨2, .callsub "f", ""⟩, ⟨3, .int (.lit 1), ""⟩, ⟨4, .ret, ""⟩, ⟨5, .callsub "f", ""⟩,
   ⟨6, .label "f", ""⟩, ⟨7, .int (.lit 0), ""⟩, ⟨8, .bz "g", ""⟩, ⟨9, .retsub, ""⟩, ⟨10, .label "g", ""⟩, ⟨11, .retsub, ""⟩]

example : (match parseTeal sample with
    | .ok t => t.main.blocks == [0, 1] &&
        (t.subs.map fun s => (s.name, s.entry, s.blocks, s.callers, s.retPoints, s.exits)) == [("f", 3, [3, 5, 4], [0], [1], [5, 4])]
    | .error _ => false) = true := by decide +kernel

example : (callsubTable [⟨1, .callsub "f", ""⟩, ⟨2, .label "f", ""⟩, ⟨3, .retsub, ""⟩]).map (·.1) = ["f"] := by decide

end Tealer.C05
