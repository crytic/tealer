/-
  Instantiation of the generic flow theorems for the four analyses: each domain's union / intersection
  over-approximate its concretisation, hence every solution the solver returns is sound along accepting traces.
-/
import TealerModel.Lemmas.Flow
import TealerModel.Lemmas.Solver
import TealerModel.Lemmas.Exact
import TealerModel.Lemmas.Fee
import TealerModel.Lemmas.IntSet
import TealerModel.Lemmas.Addr
namespace Tealer

theorem feeLaws : Flow.GammaLaws feeAnalysis Fee.gamma := Flow.gamma_of_exact Fee.union_exact Fee.inter_exact

/-- every analysis over the integer / transaction-kind sets reads them by membership: union / intersection exact, null set
    empty — the source of its `GammaLaws` and (C14) `MonoLaws` too -/
theorem natSet_exact (A : Analysis NatSet) (hd : A.dom = natSetDomain) : Exact.ExactLaws A IntSet.gamma :=
  ⟨fun a b v => hd ▸ IntSet.union_exact a b v, fun a b v => hd ▸ IntSet.inter_exact a b v, fun v => hd ▸ IntSet.null_empty v⟩

theorem groupIndicesLaws : Flow.GammaLaws groupIndicesAnalysis IntSet.gamma :=
  Flow.gamma_of_exact (natSet_exact _ rfl).union (natSet_exact _ rfl).inter

theorem txnTypeLaws : Flow.GammaLaws txnTypeAnalysis IntSet.gamma :=
  Flow.gamma_of_exact (natSet_exact _ rfl).union (natSet_exact _ rfl).inter

theorem addrLaws : Flow.GammaLaws addrAnalysis Addr.gamma := ⟨Addr.union_sound, Addr.inter_sound⟩

/-- flow layer, composed: the values the forward solver returns (not just any solution) admit the concrete value at every
    block of an accepting trace — worklist theorem + soundness of any solution, under the decidable graph conditions `fwdWF` -/
theorem solver_forward_sound {D V : Type} [DecidableEq D] {A : Analysis D} {γ : D → V → Prop} (L : Flow.GammaLaws A γ)
    (g : Graph) (univ : D) (bc : Nat → D) (pc : Nat → Nat → D) (hwf : Solver.fwdWF g = true)
    (r : List (Nat × D)) (h : solveFwd A g univ bc pc = some r) (v : V) (tr : List Nat)
    (ht : Flow.FwdTrace g γ univ bc pc v tr) (hkeys : ∀ b ∈ tr, b ∈ g.keys) :
    ∀ i, i < tr.length → γ (getMap r tr[i]! A.dom.null) v :=
  Flow.forward_sound L g univ bc pc r v tr ht
    (fun b hb => Solver.solveFwd_solution A g univ bc pc hwf r h b (hkeys b hb))

/-- flow layer, composed, backward pass: the values the backward solver returns admit the concrete value at every block of
    an accepting trace (leaves carry the forward values `ctx1`), under the decidable graph conditions `bwdWF` -/
theorem solver_backward_sound {D V : Type} [DecidableEq D] {A : Analysis D} {γ : D → V → Prop} (L : Flow.GammaLaws A γ)
    (g : Graph) (ctx1 : Nat → D) (hwf : Solver.bwdWF g = true)
    (r : List (Nat × D)) (h : solveBwd A g ctx1 = some r) (v : V) (tr : List Nat)
    (ht : Flow.BwdTrace g γ ctx1 v tr) (hkeys : ∀ b ∈ tr, b ∈ g.keys) :
    ∀ i, i < tr.length → γ (getMap r tr[i]! A.dom.null) v :=
  Flow.backward_sound L g ctx1 r v tr ht
    (fun b hb hl => Solver.solveBwd_leaf A g ctx1 r h b (hkeys b hb) hl)
    (fun b hb => Solver.solveBwd_solution A g ctx1 hwf r h b (hkeys b hb))

/-- both passes: what `solve` returns admits the concrete value at every block of an accepting trace that satisfies the
    forward and the backward trace facts -/
theorem solver_sound {D V : Type} [DecidableEq D] {A : Analysis D} {γ : D → V → Prop} (L : Flow.GammaLaws A γ)
    (g : Graph) (univ : D) (bc : Nat → D) (pc : Nat → Nat → D)
    (hwf1 : Solver.fwdWF g = true) (hwf2 : Solver.bwdWF g = true)
    (r : List (Nat × D)) (h : solve A g univ bc pc = .ok r) (v : V) (tr : List Nat)
    (ht1 : Flow.FwdTrace g γ univ bc pc v tr) (hkeys : ∀ b ∈ tr, b ∈ g.keys)
    (hshape : tr ≠ [] ∧ g.isLeaf tr[tr.length - 1]! = true ∧ (∀ i, i + 1 < tr.length → g.isLeaf tr[i]! = false) ∧
      (∀ i, i + 1 < tr.length → tr[i+1]! ∈ g.nextG tr[i]!) ∧
      (∀ i, i < tr.length → ∀ r, g.retPointOf tr[i]! = some r → g.calleeHasRetsub tr[i]! = true →
        ∃ j, i < j ∧ j < tr.length ∧ tr[j]! = r)) :
    ∀ i, i < tr.length → γ (getMap r tr[i]! A.dom.null) v := by
  obtain ⟨rout, h1, h2⟩ := (Solver.solve_ok A g univ bc pc r).mp h
  have hf := solver_forward_sound L g univ bc pc hwf1 rout h1 v tr ht1 hkeys
  obtain ⟨hne, hlast, hint, hedges, hret⟩ := hshape
  refine solver_backward_sound L g _ hwf2 r h2 v tr ?_ hkeys
  exact { nonempty := hne, lastLeaf := hlast, interior := hint, edges := hedges, returns := hret
          ctxOk := by
            -- the forward values admit `v` along the trace: that is the forward theorem
            intro b hb
            obtain ⟨i, hi, rfl⟩ := List.getElem_of_mem hb
            simpa [hi] using hf i hi }

def fwdInputs (g : Graph) (b : Nat) : List Nat :=
  g.prevG b ++ (match g.callsubOf b with | some c => [c] | none => [])

def bwdInputs (g : Graph) (b : Nat) : List Nat :=
  b :: g.nextG b ++ (match g.retPointOf b with | some r => [r] | none => [])

/-- decidable well-formedness of the global graph: successor / predecessor lists mirror each other, a return
    point's call site has it as return point and vice versa (the conditions of `Solver.fwdWF` and `Solver.bwdWF` without
    their clauses on the initial worklists) -/
def graphWF (g : Graph) : Bool :=
  g.keys.all (fun b => (g.prevG b).all fun p => (g.nextG p).contains b) &&
  g.keys.all (fun b => (g.nextG b).all fun n => (g.prevG n).contains b) &&
  g.keys.all (fun b => match g.callsubOf b with | some c => g.retPointOf c == some b | none => true) &&
  g.keys.all (fun b => match g.retPointOf b with | some r => g.callsubOf r == some b | none => true)

end Tealer
