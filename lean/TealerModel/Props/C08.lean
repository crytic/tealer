/-
  C08 — Per-block address-field information admits every approvable address.
-/
import TealerModel.Props.TieFlow
import TealerModel.Props.Common
import TealerModel.Props.Tie
import TealerModel.Props.TieMatchers
namespace Tealer.C08

/-- tie to today's source (constants and tables imported from /repo on this run) -/
theorem C08_tie_source : Generated.addrMarkers = [ANY_ADDRESS, NO_ADDRESS, SOME_ADDRESS, CREATOR_ADDRESS] ∧
    Generated.addrBaseKeys = addrAnalysis.baseKeys ∧ Generated.ZERO_ADDRESS = ZERO_ADDRESS :=
  ⟨Tie.addrMarkers_tie, Tie.addrBaseKeys_tie, Tie.zeroAddress_tie⟩

/-- tie to today's source, lattice: the model's address union / intersection are the functions translated on this run from
    the Python AST of AddrFields._union / _intersection -/
theorem C08_tie_lattice (a b : AddrSet) :
    addrAnalysis.dom.union a b = Generated.addrUnion a b ∧ addrAnalysis.dom.inter a b = Generated.addrInter a b :=
  ⟨Tie.addr_union_tie a b, Tie.addr_inter_tie a b⟩

/-- tie to today's source, leaf: the address set a comparison operand denotes is computed by the function translated on this
    run from AddrFields._get_asserted_address -/
theorem C08_tie_leaf (op : Op) (text : String) : assertedAddress op text = Generated.addrAsserted op text :=
  Tie.addr_asserted_tie op text

theorem C08_union_sound (a b : AddrSet) (v : String) :
    Addr.gamma a v ∨ Addr.gamma b v → Addr.gamma (addrUnion a b) v := Addr.union_sound a b v

theorem C08_inter_sound (a b : AddrSet) (v : String) :
    Addr.gamma a v → Addr.gamma b v → Addr.gamma (addrInter a b) v := Addr.inter_sound a b v

/-- comparing with ZeroAddress / a literal / CreatorAddress: the asserted set admits the non-zero address
    that equals the comparand -/
theorem C08_comparand_sound (op : Op) (text : String) (y : Option String) (v : String)
    (hv : Addr.IsAddr v) (hden : Addr.comparand op = some y) (hy : y = some v) :
    Addr.gamma (assertedAddress op text) v := Addr.assertedAddress_sound op text v hv (hy ▸ hden)

/-- a field without the ANY marker excludes every address it does not list (so "not any address" is reported
    only when some address really is excluded) -/
theorem C08_notAny (s : AddrSet) (v : String) (h : s.contains ANY_ADDRESS = false) (hv : ¬ v ∈ s) :
    ¬ Addr.gamma s v := Addr.notAny_excludes s v h hv

theorem C08_forward_sound (g : Graph) (bc : Nat → AddrSet) (pc : Nat → Nat → AddrSet)
    (rout : List (Nat × AddrSet)) (v : String) (tr : List Nat)
    (ht : Flow.FwdTrace g Addr.gamma addrUniv bc pc v tr)
    (hsol : ∀ b ∈ tr, getMap rout b addrNull = fwdF addrAnalysis g addrUniv bc pc rout b) :
    ∀ i, i < tr.length → Addr.gamma (getMap rout tr[i]! addrNull) v :=
  Flow.forward_sound addrLaws g addrUniv bc pc rout v tr ht hsol

theorem C08_backward_sound (g : Graph) (ctx1 : Nat → AddrSet) (lout : List (Nat × AddrSet))
    (v : String) (tr : List Nat) (ht : Flow.BwdTrace g Addr.gamma ctx1 v tr)
    (hleaf : ∀ b ∈ tr, g.isLeaf b = true → getMap lout b addrNull = ctx1 b)
    (hsol : ∀ b ∈ tr, getMap lout b addrNull = bwdF addrAnalysis g ctx1 lout b) :
    ∀ i, i < tr.length → Addr.gamma (getMap lout tr[i]! addrNull) v :=
  Flow.backward_sound addrLaws g ctx1 lout v tr ht hleaf hsol

example : Addr.gamma (addrInter addrUniv ["X"]) "X" := by decide

/-- the matcher is the Python's: `_get_asserted_txn_gtxn`, translated statement by statement from /repo's Python on this run,
    computes exactly the model's `addrSingle` on the stack value the Python holds, for every key, block and instruction -/
theorem C08_tie_matcher (intcs : Option (List Nat)) (ins : List Ins) (key : Key) (n p o : Nat) :
    addrSingle intcs (constructAst ins) key p =
      Generated.getAssertedTxnGtxn (TieM.envOf intcs) (TieM.envOf intcs) key (treeOf (constructAst ins) (n + 3) (some (p, o))) :=
  TieM.addr_tie intcs _ (TieM.arity_constructAst ins) key n p o

/-- the block-level constraint of this analysis is computed by the Python's own `_block_level_constraints`, translated on this
    run (instance of `TieF.block_tie`; edge constraints and transfer functions: `C01_tie_constraints`, `C01_tie_transfer_functions`) -/
theorem C08_tie_block_constraint (intcs : Option (List Nat)) (b : FBlock) (key : Key) (n : Nat) :
    blockConstraint addrAnalysis intcs b key =
      Generated.blockLevelConstraints (TieM.envOf intcs) addrAnalysis.dom (addrAnalysis.univ key.base)
        (TieF.gaOf addrAnalysis intcs (constructAst b.ins) key (b.ins.length + 1)) (TieM.envOf intcs) key (TieF.fblockView b n) :=
  TieF.block_tie addrAnalysis intcs b key n

/-- `Tie.class_hierarchy_tie` for this property: `itxn` is no `Txn`, so an address field read from the last inner transaction is
    not taken for the governed field -/
theorem C08_tie_class_hierarchy : Generated.classHierarchy = PyView.classHierarchySpec := Tie.class_hierarchy_tie

end Tealer.C08
