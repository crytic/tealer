/-
  C12 — A function cut out by a dispatch path has exactly that path's executions.
-/
import TealerModel.Function
namespace Tealer.C12

/-- a contract with one straight block: the whole-contract function (path [B0]) has the same block ids and edges -/
def tiny : List Ins := [⟨1, .pragma 8, ""⟩, ⟨2, .int (.lit 1), ""⟩, ⟨3, .ret, ""⟩]

def funcEdges (ins : List Ins) : Except Err (List (Nat × List Nat × List Nat)) := do
  let t ← parseTeal ins
  let f ← constructFunction t [0]
  pure (f.blocks.map fun (b : FBlock) => (b.idx, b.next, b.prev))

def tealEdges (ins : List Ins) : Except Err (List (Nat × List Nat × List Nat)) := do
  let t ← parseTeal ins
  pure ((t.live.filterMap t.block?).map fun (b : Block) => (b.idx, b.next, b.prev))

theorem C12_iso_tiny : (funcEdges tiny).toOption = (tealEdges tiny).toOption ∧ (funcEdges tiny).toOption.isSome = true := by decide +kernel

/-- error blocks are leaves that lead nowhere and contain the custom error instruction: an execution that leaves the
    dispatch path there cannot be approved -/
theorem C12_error_block_is_leaf (k idx line : Nat) (p : Nat) :
    ({ key := k, idx := idx, ins := [{ line := line, op := .customErr }], next := [], prev := [p], sub := "" } : FBlock).isLeaf = true := rfl

/-- keys of shared subroutine blocks, copied main blocks and error blocks never collide (for programs below 2^20 blocks) -/
theorem C12_key_spaces (i j c : Nat) (hi : i < subOff) (hj : j < subOff) :
    i ≠ j + subOff ∧ i ≠ errOff + c ∧ j + subOff ≠ errOff + c := by
  unfold subOff at hi hj ⊢
  unfold errOff
  omega

example : (parseTeal tiny).toOption.isSome = true := by decide

end Tealer.C12
