/-
  Tie between the hand-written model of generic.py's transfer functions (Generic.lean: fwdF, bwdF, blockConstraint,
  pathConstraint) and the functions regenerated from /repo's Python on every run (Generated/Flow.lean: _calculate_reachin,
  _calculate_livein, _block_level_constraints, _path_level_constraints, for one analysis key).
-/
import TealerModel.Generated.Flow
import TealerModel.Props.TieMatchers
import TealerModel.Generic
import TealerModel.Lemmas.PyLoops
namespace Tealer.TieF
open PyView TieM PyLoops

variable {D : Type} [DecidableEq D]

/-- what generic.py reads of a block of the function-level graph, from the model's `Graph` (`callsubBlock` is read only under
    `is_sub_return_point`, hence `getD 0`; of the callee's `retsub_blocks` only whether the list is empty) -/
def graphBlock (g : Graph) (b : Nat) : PyView.PyBlock :=
  { isEntry := b == g.entry, instructions := [], exitInstr := default, exitInstrNextLen := 0, next := [],
    nextGlobal := g.nextG b, prevGlobal := g.prevG b,
    isSubReturnPoint := (g.callsubOf b).isSome, callsubBlock := (g.callsubOf b).getD 0,
    isCallsubBlock := (g.retPointOf b).isSome, subReturnPoint := g.retPointOf b,
    calleeRetsubBlocks := if g.calleeHasRetsub b then 1 else 0, isLeaf := g.isLeaf b }

theorem reachin_tie (A : Analysis D) (g : Graph) (univ : D) (bc : Nat → D) (pc : Nat → Nat → D) (cur : List (Nat × D))
    (b : Nat) (E : PyView.Env) (key : Key) :
    fwdF A g univ bc pc cur b =
      A.dom.inter (Generated.calculateReachin A.dom univ (pc b) E key (graphBlock g b) (fun k => getMap cur k A.dom.null)) (bc b) := by
  unfold fwdF Generated.calculateReachin graphBlock
  simp only [Id.run, List.forIn_pure_yield_eq_foldl, pure_bind]
  cases g.callsubOf b <;> cases b == g.entry <;> rfl

theorem livein_tie (A : Analysis D) (g : Graph) (univ : D) (bc : Nat → D) (cur : List (Nat × D)) (b : Nat) (E : PyView.Env) (key : Key) :
    bwdF A g bc cur b =
      if g.isLeaf b then getMap cur b A.dom.null
      else A.dom.inter (Generated.calculateLivein A.dom univ E key (graphBlock g b) (fun k => getMap cur k A.dom.null)) (bc b) := by
  unfold bwdF Generated.calculateLivein graphBlock
  simp only [Id.run, List.forIn_pure_yield_eq_foldl, pure_bind]
  cases g.isLeaf b
  case true => rfl
  case false => cases g.calleeHasRetsub b <;> cases g.retPointOf b <;> rfl

/-- `self._get_asserted(key, v)` on the stack value of the instruction at position `pos` -/
def gaOf (A : Analysis D) (intcs : Option (List Nat)) (a : Ast) (key : Key) (fuel : Nat) : PySV → D × D :=
  fun sv => match sv.pos? with
    | some q => getAsserted A intcs a key fuel q
    | none => (A.univ key.base, A.univ key.base)

/-- `block.instructions`, each with `get_stack_value_for_ins(ins)` -/
def insViews (a : Ast) (n : Nat) (ins : List Ins) : List PyView.PyIns :=
  ins.zipIdx.map fun (i, p) => { op := i.op, sv := treeOf a (n + 1) (some (p, 0)) }

def fblockView (b : FBlock) (n : Nat) : PyView.PyBlock :=
  { (default : PyView.PyBlock) with instructions := insViews (constructAst b.ins) n b.ins }

theorem foldl_congr' {α β : Type} (l : List α) (init : β) (f g : β → α → β) (h : ∀ a ∈ l, ∀ y, f y a = g y a) :
    l.foldl f init = l.foldl g init :=
  List.foldl_ext f g init fun y a ha => h a ha y

/-- `is_int and isinstance(value, int) and value == 0` on what `is_int_push_ins` returns -/
theorem ipOf_zero (intcs : Option (List Nat)) (op : Op) :
    ((ipOf intcs op).1 && (isIntLit (ipOf intcs op).2 && litOf (ipOf intcs op).2 == 0)) =
      (intPush intcs op == some (some (.lit 0))) := by
  unfold ipOf
  rcases intPush intcs op with _ | _ | iv
  · rfl
  · rfl
  · cases iv <;> simp [isIntLit, litOf]

theorem opOf_getElem? (ins : List Ins) (p : Nat) (i : Ins) (h : ins[p]? = some i) : (constructAst ins).opOf p = i.op := by
  obtain ⟨hp, h⟩ := List.getElem?_eq_some_iff.mp h
  rw [OperandValues.opOf_constructAst ins p hp, getElem!_pos ins p hp, h]

theorem block_tie (A : Analysis D) (intcs : Option (List Nat)) (b : FBlock) (key : Key) (n : Nat) :
    blockConstraint A intcs b key =
      Generated.blockLevelConstraints (envOf intcs) A.dom (A.univ key.base)
        (gaOf A intcs (constructAst b.ins) key (b.ins.length + 1)) (envOf intcs) key (fblockView b n) := by
  unfold blockConstraint Generated.blockLevelConstraints
  simp only [Id.run, fblockView, insViews, forIn_singleton, List.forIn_map, map_pure, pure_bind, bind_pure]
  symm
  apply forIn_yield
  intro ip hip y
  obtain ⟨i, p⟩ := ip
  simp only [tree_arg, tree_isUnknown, isIntPush_tie, ipOf_zero, isAssert_eq, isReturn_eq, isErr_eq, isCustomErr_eq]
  have har : i.op.pops = 1 → ∃ r, (constructAst b.ins).argsOf p = [r] := fun h =>
    (arity_constructAst b.ins).args1 (by rw [opOf_getElem? _ _ i (List.mem_zipIdx_iff_getElem?.mp hip)]; exact h)
  by_cases h1 : i.op = .assert
  · obtain ⟨r, hr⟩ := har (by rw [h1]; rfl)
    simp only [h1, beq_self_eq_true, ↓reduceIte, hr, List.getD_cons_zero, condArg]
    rcases r with _ | ⟨q, o⟩
    · rfl
    · simp only [Option.isNone_some, Bool.false_eq_true, if_false, gaOf, tree_pos]
      rfl
  by_cases h2 : i.op = .ret
  · obtain ⟨r, hr⟩ := har (by rw [h2]; rfl)
    simp only [h2, beq_self_eq_true, show (Op.ret == Op.assert) = false from rfl, Bool.false_eq_true, ↓reduceIte, hr,
      List.getD_cons_zero, condArg]
    rcases r with _ | ⟨q, o⟩
    · rfl
    · simp only [Option.isNone_some, Bool.false_eq_true, if_false, gaOf, tree_pos, tree_instruction]
      split <;> rfl
  by_cases h3 : i.op = .err
  · simp only [h3]; rfl
  by_cases h4 : i.op = .customErr
  · simp only [h4]; rfl
  -- the model's `match` falls through by `h1` … `h4`, which `simp` finds among the hypotheses
  simp only [beq_eq_false_iff_ne.mpr h1, beq_eq_false_iff_ne.mpr h2, beq_eq_false_iff_ne.mpr h3, beq_eq_false_iff_ne.mpr h4,
    Bool.or_self, Bool.false_eq_true, if_false]

/-- what `_path_level_constraints` reads of the predecessor block -/
def predView (pred : FBlock) (nextGlobal : List Nat) (n : Nat) : PyView.PyBlock :=
  { (default : PyView.PyBlock) with
    exitInstr := { op := pred.exitOp.getD .err, sv := treeOf (constructAst pred.ins) (n + 1) (some (pred.ins.length - 1, 0)) },
    exitInstrNextLen := pred.exitNexts, next := pred.next, nextGlobal := nextGlobal }

theorem id_pure_app {α β : Type} (f : α → β) (x : α) : (pure f : Id (α → β)) x = f x := rfl

/-- what `isinstance(exit_instr, BZ)` / `isinstance(exit_instr, BNZ)` say of the model's exit instruction -/
theorem exit_trichotomy (o : Option Op) :
    (isClass (o.getD .err) "BZ" = true ∧ ∃ l, o = some (.bz l)) ∨
    (isClass (o.getD .err) "BZ" = false ∧ isClass (o.getD .err) "BNZ" = true ∧ ∃ l, o = some (.bnz l)) ∨
    (isClass (o.getD .err) "BZ" = false ∧ isClass (o.getD .err) "BNZ" = false ∧
      (∀ l, o ≠ some (.bz l)) ∧ ∀ l, o ≠ some (.bnz l)) := by
  cases hz : isClass (o.getD .err) "BZ"
  case true =>
    obtain ⟨l, hl⟩ := (ofClass _).bz (eq_of_beq hz)
    exact .inl ⟨rfl, l, (Option.getD_eq_iff.mp hl).resolve_right nofun⟩
  cases hnz : isClass (o.getD .err) "BNZ"
  case true =>
    obtain ⟨l, hl⟩ := (ofClass _).bnz (eq_of_beq hnz)
    exact .inr (.inl ⟨rfl, rfl, l, (Option.getD_eq_iff.mp hl).resolve_right nofun⟩)
  case false =>
    exact .inr (.inr ⟨rfl, rfl, fun l e => not_isClass (k := .bz l) hz (congrArg (·.getD .err) e),
      fun l e => not_isClass (k := .bnz l) hnz (congrArg (·.getD .err) e)⟩)

/-- the dictionary written by a conditional branch (jump edge first, then the default edge), read at `succ` -/
theorem one_write {V : Type} (pc0 : Nat → Option V) (U : V) (succ : Nat) (h0 : pc0 succ = some U) (j : Nat) (x : V) :
    dictSet pc0 j x succ = some (if j = succ then x else U) := by
  by_cases hj : j = succ
  · rw [if_pos hj]; exact if_pos hj.symm
  · rw [if_neg hj, ← h0]; exact if_neg (Ne.symm hj)

theorem two_writes {V : Type} (pc0 : Nat → Option V) (U : V) (succ : Nat) (h0 : pc0 succ = some U) (j d : Nat) (x y : V) :
    dictSet (dictSet pc0 j x) d y succ = some (if d = succ then y else if j = succ then x else U) := by
  by_cases hd : d = succ
  · rw [if_pos hd]; exact if_pos hd.symm
  · rw [if_neg hd, ← one_write pc0 U succ h0 j x]; exact if_neg (Ne.symm hd)

theorem exitOp_opOf (pred : FBlock) (op : Op) (hex : pred.exitOp = some op) :
    (constructAst pred.ins).opOf (pred.ins.length - 1) = op := by
  obtain ⟨i, hi, rfl⟩ := Option.map_eq_some_iff.mp hex
  exact opOf_getElem? _ _ i (List.getLast?_eq_getElem? ▸ hi)

theorem path_tie (A : Analysis D) (intcs : Option (List Nat)) (pred : FBlock) (key : Key) (n : Nat) (nextGlobal : List Nat)
    (succ : Nat) (hs : succ ∈ nextGlobal) (hne : pred.next ≠ []) :
    Generated.pathLevelConstraints (envOf intcs) A.dom (A.univ key.base)
        (gaOf A intcs (constructAst pred.ins) key (pred.ins.length + 1)) (envOf intcs) key (predView pred nextGlobal n) succ =
      some (pathConstraint A intcs pred succ key) := by
  unfold Generated.pathLevelConstraints pathConstraint
  simp only [Id.run, predView, forIn_singleton, List.forIn_pure_yield_eq_foldl, pure_bind, tree_arg, tree_isUnknown,
    List.foldl_cons, List.foldl_nil]
  generalize hpc : List.foldl (fun b a => dictSet b a (A.univ key.base)) (fun _ => none) nextGlobal = pc0
  have h0 : pc0 succ = some (A.univ key.base) := by rw [← hpc]; exact (foldl_dmapSet (fun _ => some _) _ _ succ).trans (if_pos hs)
  rcases exit_trichotomy pred.exitOp with ⟨hz, l, hex⟩ | ⟨hz, hnz, l, hex⟩ | ⟨hz, hnz, h1, h2⟩
  case inr.inr =>
    rw [if_neg (by rw [hz, hnz]; exact Bool.false_ne_true)]
    split
    exacts [absurd ‹_› (h1 _), absurd ‹_› (h2 _), h0]
  -- a conditional branch: the Python's class tests first, while they still read `pred.exitOp`, then both sides by `hex`
  case' inl => rw [hz]
  case' inr.inl => rw [hz, hnz]
  all_goals
    obtain ⟨r, hr⟩ := (arity_constructAst pred.ins).args1 (p := pred.ins.length - 1) (by rw [exitOp_opOf pred _ hex]; rfl)
    simp only [hex, hr, List.getD_cons_zero, condArg, Bool.true_or, Bool.false_or, Bool.false_eq_true, ↓reduceIte]
    rcases r with _ | ⟨q, o⟩
    · exact h0
    simp only [Option.isNone_some, Bool.false_eq_true, if_false, gaOf, tree_pos]
    rcases hn : pred.next with _ | ⟨d, _ | ⟨j, tl⟩⟩
    · exact absurd hn hne
    · by_cases h1 : pred.exitNexts > 1
      · simp [h1, h0, id_pure_app]
      · simp [h1, id_pure_app, one_write pc0 _ succ h0]
    · simp [id_pure_app, two_writes pc0 _ succ h0]

end Tealer.TieF
