/-
  Tie between the hand-written model of generic.py's two worklist solvers (Generic.worklistRun instantiated by solveFwd /
  solveBwd, about which the solver, confluence and exactness theorems are proved) and the functions regenerated from /repo's
  Python on every run (Generated/Worklist.lean: _merge_information_forward, forward_analyis, _merge_information_backward,
  backward_analysis, for one analysis key).  The Python keeps `global_reachout[key]` as a dictionary updated in place; the
  translation keeps it as a function of the block, the model as an association list: `asFun` relates the two.
-/
import TealerModel.Generated.Worklist
import TealerModel.Props.TieFlow
import TealerModel.Lemmas.Worklist
namespace Tealer.TieW
open PyView TieF PyLoops

variable {D : Type} [DecidableEq D]

/-- the association list of the model read as the Python's dictionary (missing key: the null set; the KeyError is `mkGraph`'s) -/
def asFun (dflt : D) (cur : List (Nat × D)) : Nat → D := fun k => getMap cur k dflt

omit [DecidableEq D] in
theorem asFun_updMap (dflt : D) (cur : List (Nat × D)) (b : Nat) (v : D) :
    asFun dflt (updMap cur b v) = dmapSet (asFun dflt cur) b v := by
  funext k
  simp [asFun, dmapSet, Worklist.getMap_updMap]

/-- the re-queueing loop `for bi in L: if bi not in worklist: worklist.append(bi)` -/
theorem requeue_loop (L rest : List Nat) :
    (forIn (m := Option) L rest (fun bi wl => if (!(wl.contains bi)) = true then pure (ForInStep.yield (wl ++ [bi])) else pure (ForInStep.yield wl))) =
      some (L.foldl (fun wl d => if wl.contains d then wl else wl ++ [d]) rest) :=
  forIn_yield L rest _ _ fun bi _ wl => by cases wl.contains bi <;> rfl

/-- `if new != old[b]: old[b] = new; updated = True`, the end of both merge functions -/
theorem merge_step (dflt : D) (cur : List (Nat × D)) (b : Nat) (v : D) :
    ((fun a => (a.snd, a.fst)) <$> (fun x => x.value) <$>
      (if (v != asFun dflt cur b) = true then pure (ForInStep.yield (dmapSet (asFun dflt cur) b v, true))
       else pure (ForInStep.yield (asFun dflt cur, false)) : Id (ForInStep ((Nat → D) × Bool)))) =
      if v = getMap cur b dflt then (false, asFun dflt cur) else (true, asFun dflt (updMap cur b v)) := by
  by_cases hv : v = getMap cur b dflt
  · rw [if_neg (by simp [asFun, hv]), if_pos hv]
    rfl
  · rw [if_pos (by simp [asFun, hv]), if_neg hv, asFun_updMap]
    rfl

/-- `_merge_information_forward`: the new value is the model's `fwdF`; the dictionary is updated exactly when it differs -/
theorem merge_fwd_tie (A : Analysis D) (g : Graph) (univ : D) (bc : Nat → D) (pc : Nat → Nat → D) (cur : List (Nat × D))
    (b : Nat) (E : PyView.Env) (key : Key) (blocks : List Nat) :
    Generated.mergeInformationForward A.dom univ bc pc blocks (graphBlock g) E key b (asFun A.dom.null cur) =
      (if fwdF A g univ bc pc cur b = getMap cur b A.dom.null then (false, asFun A.dom.null cur)
       else (true, asFun A.dom.null (updMap cur b (fwdF A g univ bc pc cur b)))) := by
  unfold Generated.mergeInformationForward
  rw [reachin_tie A g univ bc pc cur b E key]
  exact merge_step A.dom.null cur b _

theorem merge_bwd_tie (A : Analysis D) (g : Graph) (univ : D) (bc : Nat → D) (pc : Nat → Nat → D) (cur : List (Nat × D))
    (b : Nat) (E : PyView.Env) (key : Key) (blocks : List Nat) :
    Generated.mergeInformationBackward A.dom univ bc pc blocks (graphBlock g) E key b (asFun A.dom.null cur) =
      (if bwdF A g bc cur b = getMap cur b A.dom.null then (false, asFun A.dom.null cur)
       else (true, asFun A.dom.null (updMap cur b (bwdF A g bc cur b)))) := by
  unfold Generated.mergeInformationBackward
  rw [livein_tie A g univ bc cur b E key]
  by_cases hl : g.isLeaf b = true
  · rw [if_pos (show (graphBlock g b).isLeaf = true from hl), if_pos hl, if_pos rfl]
    rfl
  · rw [if_neg (show ¬ (graphBlock g b).isLeaf = true from hl), if_neg hl]
    exact merge_step A.dom.null cur b _

theorem fwd_deps (g : Graph) (b : Nat) :
    (graphBlock g b).nextGlobal ++
      (if ((graphBlock g b).isCallsubBlock && (graphBlock g b).subReturnPoint.isSome) = true then
        [(graphBlock g b).subReturnPoint.getD 0] else []) = fwdDeps g b := by
  -- named and rewritten by `simp`, because `cases g.retPointOf b` does not reach the instance argument of the `if`
  obtain ⟨r, hr⟩ : ∃ r, g.retPointOf b = r := ⟨_, rfl⟩
  simp only [graphBlock, fwdDeps, hr]
  cases r <;> rfl

theorem bwd_deps (g : Graph) (b : Nat) :
    (graphBlock g b).prevGlobal ++ (if (graphBlock g b).isSubReturnPoint = true then [(graphBlock g b).callsubBlock] else []) =
      bwdDeps g b := by
  obtain ⟨c, hc⟩ : ∃ c, g.callsubOf b = c := ⟨_, rfl⟩
  simp only [graphBlock, bwdDeps, hc]
  cases c <;> rfl

/-- The forward worklist is the Python's: the `while worklist:` loop of `forward_analyis`, run with the same fuel from the same
    state, returns the model's `worklistRun` over `fwdF` / `fwdDeps` (and runs out of fuel exactly when the model does) -/
theorem fwd_loop_tie (A : Analysis D) (g : Graph) (univ : D) (bc : Nat → D) (pc : Nat → Nat → D) (E : PyView.Env) (key : Key)
    (blocks : List Nat) : ∀ (fuel : Nat) (cur : List (Nat × D)) (wl : List Nat),
    Generated.forwardAnalyisLoop A.dom univ bc pc blocks (graphBlock g) E key fuel wl (asFun A.dom.null cur) =
      (worklistRun (fwdF A g univ bc pc) (fwdDeps g) A.dom.null fuel cur wl).map (asFun A.dom.null) := by
  intro fuel
  induction fuel with
  | zero => intro cur wl; rfl
  | succ fuel ih =>
    intro cur wl
    rcases wl with _ | ⟨b, rest⟩
    · rfl
    · unfold Generated.forwardAnalyisLoop worklistRun
      simp only [List.isEmpty_cons, Bool.false_eq_true, if_false, List.headD_cons, List.drop_one, List.tail_cons,
        merge_fwd_tie A g univ bc pc cur b E key blocks]
      by_cases hv : fwdF A g univ bc pc cur b = getMap cur b A.dom.null
      · simp only [hv, if_true, Bool.false_eq_true, if_false]
        exact ih cur rest
      · simp only [hv, if_false, if_true, requeue_loop, Option.bind_eq_bind, Option.bind_some]
        -- `erw`: `simp only` has left `(b :: rest).headD 0` for `b` inside the instance argument of the `if`
        erw [fwd_deps]
        exact ih _ _

/-- the same for `backward_analysis`, over `bwdF` / `bwdDeps` -/
theorem bwd_loop_tie (A : Analysis D) (g : Graph) (univ : D) (bc : Nat → D) (pc : Nat → Nat → D) (E : PyView.Env) (key : Key)
    (blocks : List Nat) : ∀ (fuel : Nat) (cur : List (Nat × D)) (wl : List Nat),
    Generated.backwardAnalysisLoop A.dom univ bc pc blocks (graphBlock g) E key fuel wl (asFun A.dom.null cur) =
      (worklistRun (bwdF A g bc) (bwdDeps g) A.dom.null fuel cur wl).map (asFun A.dom.null) := by
  intro fuel
  induction fuel with
  | zero => intro cur wl; rfl
  | succ fuel ih =>
    intro cur wl
    rcases wl with _ | ⟨b, rest⟩
    · rfl
    · unfold Generated.backwardAnalysisLoop worklistRun
      simp only [List.isEmpty_cons, Bool.false_eq_true, if_false, List.headD_cons, List.drop_one, List.tail_cons,
        merge_bwd_tie A g univ bc pc cur b E key blocks]
      by_cases hv : bwdF A g bc cur b = getMap cur b A.dom.null
      · simp only [hv, if_true, Bool.false_eq_true, if_false]
        exact ih cur rest
      · simp only [hv, if_false, if_true, requeue_loop, Option.bind_eq_bind, Option.bind_some]
        erw [bwd_deps]
        exact ih _ _

omit [DecidableEq D] in
/-- the initialisation loop `for b in self._function.blocks: global_reachout[key][b] = f(b)` on the empty dictionary -/
theorem init_loop (dflt : D) (f : Nat → D) (body : Nat → (Nat → D) → Option (ForInStep (Nat → D)))
    (hbody : ∀ b r, body b r = some (ForInStep.yield (dmapSet r b (f b)))) (keys : List Nat) :
    forIn (m := Option) keys (fun _ => dflt) body = some (asFun dflt (keys.map fun k => (k, f k))) := by
  rw [forIn_yield keys _ body (fun r b => dmapSet r b (f b)) fun b _ r => hbody b r]
  exact congrArg some (funext fun k => (foldl_dmapSet f keys _ k).trans (Worklist.getMap_map_keys keys f k dflt).symm)

/-- `forward_analyis` for one key = the model's `solveFwd` (same fuel, same initial worklist) -/
theorem forward_tie (A : Analysis D) (g : Graph) (univ : D) (bc : Nat → D) (pc : Nat → Nat → D) (E : PyView.Env) (key : Key) :
    Generated.forwardAnalyis A.dom univ bc pc g.keys (graphBlock g) E key (solverFuel g) (fwdWorklist g) =
      (solveFwd A g univ bc pc).map (asFun A.dom.null) := by
  unfold Generated.forwardAnalyis solveFwd
  -- not `forIn_singleton`: what it leaves makes the kernel unfold the loop at `solverFuel g` in the last step, which is very slow
  simp only [List.forIn_cons, List.forIn_nil, Option.pure_def, Option.bind_eq_bind]
  rw [init_loop A.dom.null (fun _ => A.dom.null) _ (fun b r => rfl)]
  exact fwd_loop_tie A g univ bc pc E key g.keys _ _ _

/-- `backward_analysis` for one key, started on the forward solution `ctx1` (= self._block_contexts[key] at that point)
    = the model's `solveBwd` -/
theorem backward_tie (A : Analysis D) (g : Graph) (univ : D) (ctx1 : Nat → D) (pc : Nat → Nat → D) (E : PyView.Env) (key : Key) :
    Generated.backwardAnalysis A.dom univ ctx1 pc g.keys (graphBlock g) E key (solverFuel g) (bwdWorklist g) =
      (solveBwd A g ctx1).map (asFun A.dom.null) := by
  unfold Generated.backwardAnalysis solveBwd
  simp only [List.forIn_cons, List.forIn_nil, Option.pure_def, Option.bind_eq_bind]
  rw [init_loop A.dom.null (fun b => if g.isLeaf b then ctx1 b else A.dom.null) _ (fun b r => by
    by_cases hl : g.isLeaf b = true <;> simp [graphBlock, hl])]
  exact bwd_loop_tie A g univ ctx1 pc E key g.keys _ _ _

/-- `_update_gtxn_constraints` (one entry of its double loop) = the model's `updateGtxn` used by `runAnalysis` -/
theorem update_gtxn_tie (A : Analysis D) (gi : List Nat) (i : Nat) (v base : D) :
    Generated.updateGtxnConstraints A.dom gi i v base = updateGtxn A gi i v base := by
  unfold Generated.updateGtxnConstraints updateGtxn
  cases gi.contains i <;> rfl

end Tealer.TieW
