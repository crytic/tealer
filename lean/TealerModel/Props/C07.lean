/-
  C07 — Transaction-kind sets keep every approvable detector-relevant kind.
  The full statement is false on the current code (known finding F01: each comparison pattern answers in the
  label set of its own dimension and thereby clears the labels of the other dimensions).  Proved here:
  the counter-example, and the partial statement per dimension.
-/
import TealerModel.Props.TieFlow
import TealerModel.Props.Common
import TealerModel.Props.Tie
import TealerModel.Props.TieMatchers
namespace Tealer.C07

/-- tie to today's source (constants and tables imported from /repo on this run) -/
theorem C07_tie_source :
    OSet.ofList Generated.ALL_TRANSACTION_TYPES = ALL_TRANSACTION_TYPES ∧
    OSet.ofList Generated.APPLICATION_TRANSACTION_TYPES = APPLICATION_TRANSACTION_TYPES ∧
    OSet.ofList Generated.TYPEENUM_TRANSACTION_TYPES = TYPEENUM_TRANSACTION_TYPES ∧
    (Generated.oncompletionTable.all fun (n, l) => oncompletionToType (.lit n) == some l) = true ∧
    (Generated.typeEnumTable.all fun (n, l) => typeToType (.lit n) == some l) = true :=
  ⟨Tie.allTypes_tie, Tie.appTypes_tie, Tie.typeEnumTypes_tie, Tie.enum_tables_tie.1, Tie.enum_tables_tie.2.1⟩

/-- tie to today's source, lattice: transaction-kind sets are joined and met with Python's `|` and `&` (translated on this
    run from TxnType._union / _intersection) -/
theorem C07_tie_lattice (a b : NatSet) :
    txnTypeAnalysis.dom.union a b = Generated.txnTypeUnion a b ∧ txnTypeAnalysis.dom.inter a b = Generated.txnTypeInter a b :=
  have ⟨_, _, hunion, hinter⟩ := Tie.set_ops_tie a b
  ⟨hunion, hinter⟩

/-- the four kinds the detectors consume, as a function of the governed transaction's fields -/
def relevantKinds (typeEnum onCompletion : Nat) : List Nat :=
  if typeEnum = 1 then [TT.Pay] else if typeEnum = 4 then [TT.Axfer]
  else if typeEnum = 6 ∧ onCompletion = 4 then [TT.ApplUpdateApplication]
  else if typeEnum = 6 ∧ onCompletion = 5 then [TT.ApplDeleteApplication] else []

/-- `txn OnCompletion; int NoOp; ==` -/
def witnessAst : Ast := constructAst [⟨1, .txn "OnCompletion", ""⟩, ⟨2, .int (.named "NoOp"), ""⟩, ⟨3, .cmp .eq, ""⟩]

/-- full leaf statement for the OnCompletion pattern: the true set keeps every relevant kind of every
    transaction on which the comparison is true -/
def C07_leaf_full : Prop :=
  ∀ (typeEnum oc : Nat), oc = 0 →   -- the comparison `OnCompletion == NoOp` is true
    ∀ k ∈ relevantKinds typeEnum oc, k ∈ (txnTypeSingle none witnessAst ⟨"TransactionType", .self⟩ 2).1

/-- a payment has OnCompletion 0, passes the check, and its kind `Pay` is dropped -/
theorem C07_leaf_full_false : ¬ C07_leaf_full :=
  -- `+kernel` here and below: the elaborator's own evaluation of the matcher is several times slower than the kernel's
  fun h => absurd (h 1 0 rfl TT.Pay (List.mem_singleton.mpr rfl)) (by decide +kernel)

/-- within the TypeEnum dimension the Pay / Axfer kinds are handled exactly: for `TypeEnum == t` the true set
    lists Pay (Axfer) iff `t` is pay (axfer) and the false set lists it iff `t` is not -/
theorem C07_typeenum_partial (t : Nat) (ht : 1 ≤ t ∧ t ≤ 6) (lbl : Nat) (hl : typeToType (.lit t) = some lbl) :
    ((TT.Pay ∈ [lbl] ↔ t = 1) ∧ (TT.Pay ∈ OSet.diff TYPEENUM_TRANSACTION_TYPES [lbl] ↔ t ≠ 1)) ∧
    ((TT.Axfer ∈ [lbl] ↔ t = 4) ∧ (TT.Axfer ∈ OSet.diff TYPEENUM_TRANSACTION_TYPES [lbl] ↔ t ≠ 4)) := by
  -- a table of six rows, swept by evaluation: `∀ t ≤ 6, ∀ lbl, typeToType (.lit t) = some lbl → …` is decidable
  -- (`lbl` is reverted first, so that the bound on `t` stands in front)
  obtain ⟨-, h6⟩ := ht
  revert lbl
  revert t
  decide +kernel

/-- within the OnCompletion dimension the Update / Delete kinds are handled exactly -/
theorem C07_oncompletion_partial (c : Nat) (hc : c ≤ 5) (lbl : Nat) (hl : oncompletionToType (.lit c) = some lbl) :
    ((TT.ApplUpdateApplication ∈ [lbl] ↔ c = 4) ∧
      (TT.ApplUpdateApplication ∈ OSet.diff APPLICATION_TRANSACTION_TYPES [lbl] ↔ c ≠ 4)) ∧
    ((TT.ApplDeleteApplication ∈ [lbl] ↔ c = 5) ∧
      (TT.ApplDeleteApplication ∈ OSet.diff APPLICATION_TRANSACTION_TYPES [lbl] ↔ c ≠ 5)) := by
  revert lbl
  revert c
  decide +kernel

/-- set algebra and flow layer are sound for the kind domain as for any set domain -/
theorem C07_forward_sound (g : Graph) (bc : Nat → NatSet) (pc : Nat → Nat → NatSet)
    (rout : List (Nat × NatSet)) (k : Nat) (tr : List Nat)
    (ht : Flow.FwdTrace g IntSet.gamma ALL_TRANSACTION_TYPES bc pc k tr)
    (hsol : ∀ b ∈ tr, getMap rout b [] = fwdF txnTypeAnalysis g ALL_TRANSACTION_TYPES bc pc rout b) :
    ∀ i, i < tr.length → k ∈ getMap rout tr[i]! [] :=
  Flow.forward_sound txnTypeLaws g ALL_TRANSACTION_TYPES bc pc rout k tr ht hsol

example : relevantKinds 1 0 = [TT.Pay] := by decide

/-- the matcher is the Python's: `_get_asserted_transaction_types`, translated statement by statement from /repo's Python on
    this run (together with is_value_matches_key, get_index_and_field, _get_index, is_int_push_ins, and the complete
    dictionaries of the two enum conversions), computes exactly the model's `txnTypeSingleE` — including when it raises
    KeyError (`none`) — on the stack value the Python holds, for every key, block and instruction -/
theorem C07_tie_matcher (intcs : Option (List Nat)) (ins : List Ins) (key : Key) (n p o : Nat) :
    Generated.getAssertedTransactionTypes (TieM.envOf intcs) (TieM.envOf intcs) key (treeOf (constructAst ins) (n + 3) (some (p, o))) =
      txnTypeSingleE intcs (constructAst ins) key p :=
  TieM.txntypes_tie intcs _ (TieM.arity_constructAst ins) key n p o

/-- the two enum conversions (teal_enums.py), every key of their dictionaries included -/
theorem C07_tie_enum_conversions (v : Option IntVal) :
    PyView.lookupEnum Generated.typeEnumTable Generated.typeEnumNames v = v.bind typeToType ∧
    PyView.lookupEnum Generated.oncompletionTable Generated.oncompletionNames v = v.bind oncompletionToType :=
  ⟨TieM.lookup_type_tie v, TieM.lookup_oncompletion_tie v⟩

/-- the block-level constraint of this analysis is computed by the Python's own `_block_level_constraints`, translated on this
    run (instance of `TieF.block_tie`; edge constraints and transfer functions: `C01_tie_constraints`, `C01_tie_transfer_functions`) -/
theorem C07_tie_block_constraint (intcs : Option (List Nat)) (b : FBlock) (key : Key) (n : Nat) :
    blockConstraint txnTypeAnalysis intcs b key =
      Generated.blockLevelConstraints (TieM.envOf intcs) txnTypeAnalysis.dom (txnTypeAnalysis.univ key.base)
        (TieF.gaOf txnTypeAnalysis intcs (constructAst b.ins) key (b.ins.length + 1)) (TieM.envOf intcs) key (TieF.fblockView b n) :=
  TieF.block_tie txnTypeAnalysis intcs b key n

end Tealer.C07
