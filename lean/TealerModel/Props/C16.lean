/-
  C16 — Each source line parses to the instruction it denotes, and prints back.
  Table obligations over the REGENERATED parse table (what the real parse_line does on every opcode sample of the
  repository's parsing corpus, the control-flow opcodes and the immediate families).
-/
import TealerModel.Generated.ParseTable
import TealerModel.Generated.OpTable
import TealerModel.Spec.OpTable
import TealerModel.Lemmas.StrBytes
namespace Tealer.C16

/-- rows that are not instructions (unknown opcodes kept verbatim as UNSUPPORTED, junk lines of the corpus), and the
    known deviation F19 (`method "sig"` prints without its quotes) -/
def exempt (line printed : String) : Bool :=
  printed.startsWith "UNSUPPORTED" || printed == "ParseError" || line.startsWith "method "

/-- the printed form of every parsed sample parses back to an identical instruction (class, printed form, stack effect) -/
theorem C16_roundtrip_table :
    Generated.parseTableChunks.all (fun ch => ch.all fun (line, printed, same, _) => exempt line printed || same) = true := by
  -- `same` first: the kernel then runs the string tests of `exempt` on the few rows that do not round-trip only
  have sameFirst (r : String × String × Bool × List Nat) : (exempt r.1 r.2.1 || r.2.2.1) = (r.2.2.1 || exempt r.1 r.2.1) :=
    Bool.or_comm _ _
  simp only [sameFirst]
  decide +kernel

/-- no opcode is taken for another that shares a prefix: every sample is parsed into the class the specification
    table names for it, with the specified printed form -/
theorem C16_class_table :
    ((Generated.opTableChunks.map fun ch => ch.map fun (l, cls, txt, _, _, _, _) => (l, cls, txt)) ==
    (Spec.opTableChunks.map fun ch => ch.map fun (l, cls, txt, _, _, _, _) => (l, cls, txt))) = true :=
  -- both sides unfold to the same literal: no string is ever compared character by character
  beq_iff_eq.mpr rfl

/-- unknown opcodes are kept verbatim -/
theorem C16_unknown_verbatim :
    Generated.parseTableChunks.all (fun ch => ch.all fun (line, printed, _, _) =>
      !printed.startsWith "UNSUPPORTED" || printed == "UNSUPPORTED " ++ line) = true := by
  -- the prefix test on byte lists; where it fails, so does `startsWith`
  have bytes : Generated.parseTableChunks.all (fun ch => ch.all fun (line, printed, _, _) =>
      !(bytesOf "UNSUPPORTED").isPrefixOf (bytesOf printed) || printed == "UNSUPPORTED " ++ line) = true := by
    decide +kernel
  simp only [List.all_eq_true] at bytes ⊢
  intro ch hch r hr
  have := bytes ch hch r hr
  obtain ⟨line, printed, _, _⟩ := r
  cases hs : printed.startsWith "UNSUPPORTED"
  · rfl
  · simpa [bytesOf_prefix hs] using this

end Tealer.C16
