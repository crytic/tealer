/-
  C03 — No report when every accepting path directly excludes the dangerous value.
  Detector layer: a path is reported only if it is a matched walk to a leaf none of whose blocks is validated; hence
  if every such walk passes a block whose context excludes the dangerous value, nothing is reported.
  Leaf / lattice layer: the set domains and the fee chain are exact (not only sound) on direct checks, so that
  "excluded on the literal reading" implies "excluded in the context".
-/
import TealerModel.Lemmas.Dfs
import TealerModel.Props.Common
import TealerModel.Lemmas.Exact
namespace Tealer.C03

/-- if every matched walk from the entry to a leaf (respecting the loop / recursion cuts) contains a validated block,
    the detector reports no path -/
theorem C03_no_report (g : DGraph) (fuel entry : Nat) (main : String) (ps : List (List Nat))
    (h : searchPaths g fuel entry [] [(none, main)] [[]] = some ps)
    (hall : ∀ rest, Dfs.Walk g [(none, main)] [[]] entry rest → ∃ x ∈ entry :: rest, g.validated x = true) :
    ps = [] := by
  cases ps with
  | nil => rfl
  | cons π tl =>
    obtain ⟨rest, _, hw⟩ := Dfs.searchPaths_valid g fuel entry [] _ _ _ h π List.mem_cons_self
    obtain ⟨x, hx, hv⟩ := hall rest hw
    cases (Dfs.walk_unvalidated hw x hx).symm.trans hv

/-- exactness of the set domains (GroupSize, GroupIndex, transaction kinds): union and intersection are the
    set-theoretic ones, the null set admits nothing -/
theorem C03_sets_exact (a b : NatSet) (v : Nat) :
    (v ∈ OSet.union a b ↔ v ∈ a ∨ v ∈ b) ∧ (v ∈ OSet.inter a b ↔ v ∈ a ∧ v ∈ b) ∧ ¬ v ∈ ([] : NatSet) :=
  ⟨OSet.mem_union v a b, OSet.mem_inter v a b, by simp⟩

/-- exactness of the fee chain on down-closed sets of fees -/
theorem C03_fee_exact (a b : FeeValue) (fee : Nat) :
    (Fee.gamma (feeUnion a b) fee ↔ Fee.gamma a fee ∨ Fee.gamma b fee) ∧
    (Fee.gamma (feeInter a b) fee ↔ Fee.gamma a fee ∧ Fee.gamma b fee) :=
  ⟨Fee.union_exact a b fee, Fee.inter_exact a b fee⟩

/-- a direct check `Fee <= c` with c at most the cost bound validates the block for missing-fee-check -/
theorem C03_fee_check_validates (c : Nat) (hc : c ≤ MAX_TRANSACTION_COST) :
    checksField .feeCheck { maxFee := (feeAssertedMax .le { value := c }).1.value } = true := by
  simp [checksField, feeAssertedMax, hc]

/-- `txn RekeyTo == global ZeroAddress` validates the block for rekey-to -/
theorem C03_rekey_check_validates : checksField .rekeyTo { rekeyto := setAddr (assertedAddress (.global "ZeroAddress") "") } = true := by
  decide +kernel

/-- `global GroupSize == n` (n < 16) validates the block for group-size-check -/
theorem C03_size_check_validates (n : Nat) (hn : n < 16) :
    checksField .groupSize { sizes := OSet.inter sizesU (OSet.ofList (assertedIntValues .eq n sizesU)) } = true := by
  have : ¬ (16 : Nat) ∈ OSet.inter sizesU (OSet.ofList (assertedIntValues .eq n sizesU)) := by
    rw [OSet.mem_inter]
    exact fun h => Nat.ne_of_gt hn (List.mem_singleton.mp h.2)
  simp [checksField, MAX_GROUP_SIZE, this]

example : checksField .feeCheck { maxFee := 1000 } = true := by decide

/-- exactness of the computed sets (forward pass; group sizes / indices and transaction kinds): a value is in the set the
    solver returns for a block only if a chain of predecessors back to the entry justifies it — every block constraint and
    every edge constraint on the chain admits the value.  Contrapositive (the C03 reading): if every such chain is cut by
    a constraint that excludes the dangerous value, the value is absent from the block's set, so the block validates and
    no path through it is reported (`C03_no_report`). -/
theorem C03_forward_exact (A : Analysis NatSet) (hd : A.dom = natSetDomain) (g : Graph) (univ : NatSet)
    (bc : Nat → NatSet) (pc : Nat → Nat → NatSet) (r : List (Nat × NatSet)) (h : solveFwd A g univ bc pc = some r)
    (k v : Nat) (hv : v ∈ getMap r k A.dom.null) :
    Exact.Justified A (fun (s : NatSet) (v : Nat) => v ∈ s) g univ bc pc v k :=
  Exact.solveFwd_justified (natSet_exact A hd) g univ bc pc r h k v hv

theorem C03_excluded_without_justification (A : Analysis NatSet) (hd : A.dom = natSetDomain) (g : Graph) (univ : NatSet)
    (bc : Nat → NatSet) (pc : Nat → Nat → NatSet) (r : List (Nat × NatSet)) (h : solveFwd A g univ bc pc = some r)
    (k v : Nat) (hno : ¬ Exact.Justified A (fun (s : NatSet) (v : Nat) => v ∈ s) g univ bc pc v k) :
    v ∉ getMap r k A.dom.null :=
  fun hv => hno (C03_forward_exact A hd g univ bc pc r h k v hv)

/-- the generic statement, for any domain with an exact membership reading -/
theorem C03_forward_exact_generic {D V : Type} [DecidableEq D] {A : Analysis D} {mem : D → V → Prop}
    (L : Exact.ExactLaws A mem) (g : Graph) (univ : D) (bc : Nat → D) (pc : Nat → Nat → D) (r : List (Nat × D))
    (h : solveFwd A g univ bc pc = some r) (k : Nat) (v : V) (hv : mem (getMap r k A.dom.null) v) :
    Exact.Justified A mem g univ bc pc v k :=
  Exact.solveFwd_justified L g univ bc pc r h k v hv

/-- both passes, any domain with an exact membership reading: a value in the final set of a block (what the detectors
    read) is justified backward down to a leaf through blocks whose forward sets contain it, and in each forward set it is
    justified forward from the entry — the computed context contains nothing but what some entry-to-leaf chain of the
    graph supports -/
theorem C03_contexts_exact {D V : Type} [DecidableEq D] {A : Analysis D} {mem : D → V → Prop}
    (L : Exact.ExactLaws A mem) (g : Graph) (univ : D) (bc : Nat → D) (pc : Nat → Nat → D) (r : List (Nat × D))
    (h : solve A g univ bc pc = .ok r) :
    ∃ rout, solveFwd A g univ bc pc = some rout ∧
      (∀ k v, mem (getMap rout k A.dom.null) v → Exact.Justified A mem g univ bc pc v k) ∧
      (∀ k v, mem (getMap r k A.dom.null) v → Exact.BJustified A mem g (fun k => getMap rout k A.dom.null) v k) :=
  Exact.solve_justified L g univ bc pc r h

end Tealer.C03
