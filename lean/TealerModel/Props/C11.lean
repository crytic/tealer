/-
  C11 — Reconstructed operands equal the operands the AVM would pass.
  (i) the stack effect tealer declares for every opcode sample equals the specification table / family formulas;
  (ii) one step of the symbolic stack of construct_stack_ast simulates an instrumented concrete stack.
-/
import TealerModel.Generated.OpTable
import TealerModel.Lemmas.StrBytes
import TealerModel.Spec.OpTable
import TealerModel.Ast
import TealerModel.Lemmas.StackEffect
import TealerModel.Lemmas.OperandValues
import TealerModel.Props.TieStackAst
namespace Tealer.C11

/-- every non-family opcode sample: class, printed form, pops, pushes, introduction version and mode built by the
    real parse_line equal the specification table (regenerated table vs committed spec, checked by the kernel) -/
theorem C11_effects_table : (Generated.opTableChunks == Spec.opTableChunks) = true :=
  -- both sides unfold to the same literal: no string is ever compared character by character
  beq_iff_eq.mpr rfl

/-- the specification row of a sample line -/
def specRow (l : String) : Option (String × Nat × Nat × Nat × Nat) :=
  (Spec.opTable.find? (·.1 == l)).map fun (_, cls, _, po, pu, ver, mode) => (cls, po, pu, ver, mode)

/-- `specRow` with the sample lines compared as byte lists (`bytesOf`): the lookups of `C11_effects_immediates` compare some
    10 000 pairs of lines -/
def specRowBytes (l : String) : Option (String × Nat × Nat × Nat × Nat) :=
  (Spec.opTable.find? (bytesOf ·.1 == bytesOf l)).map fun (_, cls, _, po, pu, ver, mode) => (cls, po, pu, ver, mode)

theorem specRowBytes_eq : specRowBytes = specRow := by
  funext l; simp only [specRowBytes, specRow, bytesOf_beq]

/-- the value of an immediate does not change the effect: every non-family sample with a decimal immediate, re-parsed by the
    real parse_line with that immediate replaced by 0, 1, 2 and 255 (`replace 0`, `gtxn 0 Fee`, `substring 0 255`, `arg 0`,
    `load 255`, ...), has the class, pops, pushes, introduction version and mode of the specification row of its base sample -/
theorem C11_effects_immediates :
    Generated.immVariantsChunks.all (fun ch => ch.all fun (_, base, cls, po, pu, ver, mode) =>
      specRow base == some (cls, po, pu, ver, mode)) = true := by
  rw [← specRowBytes_eq]
  decide +kernel

/-- AVM stack effect of the immediate families as formulas in the immediate -/
def familySpec (op : String) (a : Int) (b : Nat) : Option (Nat × Nat) :=
  let n := a.toNat
  if op == "dig" then some (n + 1, n + 2)
  else if op == "cover" then some (n + 1, n + 1)
  else if op == "uncover" then some (n + 1, n + 1)
  else if op == "bury" then some (n + 1, n)
  else if op == "popn" then some (n, 0)
  else if op == "dupn" then some (1, n + 1)
  else if op == "frame_dig" then some (0, 1)
  else if op == "frame_bury" then some (1, 0)
  else if op == "pushints" then some (0, n)
  else if op == "pushbytess" then some (0, n)
  else if op == "switch" then some (1, 0)
  else if op == "match" then some (n + 1, 0)
  else if op == "proto" then (let _ := b; some (0, 0))
  else none

/-- rows where tealer's declared effect deviates from the AVM (known findings F13: `frame_bury` declared as push 1;
    F14: `switch` / `match` without labels declared as pop 0) -/
def knownDeviation (op : String) (a : Int) : Bool :=
  op == "frame_bury" || ((op == "switch" || op == "match") && a == 0)

/-- all immediates: dig/cover/uncover/bury/popn/dupn n for n up to 255, frame_dig, pushints/pushbytess/switch/match
    up to 8 operands, proto a r: the declared effect is the AVM's, except on the listed known deviations -/
theorem C11_effects_families :
    Generated.familiesChunks.all (fun ch => ch.all fun (op, a, b, po, pu) =>
      knownDeviation op a || familySpec op a b == some (po, pu)) = true := by
  decide +kernel

/-- the known deviations are exactly what tealer declares today (so that a change there is noticed too) -/
theorem C11_known_deviations :
    Generated.familiesChunks.all (fun ch => ch.all fun (op, a, _, po, pu) =>
      !knownDeviation op a || (if op == "frame_bury" then (po, pu) == (1, 1) else (po, pu) == (0, 0))) = true := by
  decide +kernel

/-- tagged concrete cell: `none` = was on the stack before the block started -/
abbrev Tag := Option (Nat × Nat)

/-- instrumented concrete machine for a "pop k / push m" opcode: pops `pops` cells (they must exist) and pushes
    `pushes` fresh cells tagged with their producer position and output index -/
def stepConc (st : List Tag) (p : Nat) (pops pushes : Nat) : Option (List Tag × List Tag) :=
  if pops ≤ st.length then
    some (st.drop (st.length - pops), st.take (st.length - pops) ++ (List.range pushes).map (fun j => some (p, j)))
  else none

/-- simulation relation: the concrete stack is some pre-block cells (all untagged) followed by the symbolic stack -/
def Sim (sym : List Ref) (conc : List Tag) : Prop :=
  ∃ below : List Tag, (∀ t ∈ below, t = none) ∧ conc = below ++ sym

/-- one step of construct_stack_ast simulates the concrete step: every reconstructed producer is the instruction that
    really pushed that operand (with the right output position), every Unknown comes from below the block entry -/
theorem C11_sim_step (sym : List Ref) (conc : List Tag) (p : Nat) (op : Op)
    (h : Sim sym conc) (args' conc' : List Tag)
    (hc : stepConc conc p op.pops op.pushes = some (args', conc')) :
    (astStep sym p op).1 = args' ∧ Sim (astStep sym p op).2 conc' := by
  obtain ⟨below, hb, rfl⟩ := h
  unfold stepConc at hc
  split at hc
  · rename_i hle
    cases hc
    exact OperandValues.astStep_full below sym hb p op hle
  · cases hc

example : familySpec "dig" 3 0 = some (4, 5) := by decide

/-- the declared effects are the AVM's, for every input: a successful step of the concrete semantics on any dedicated opcode
    of the fragment (control flow, constants, field reads, comparisons, logic, arithmetic) removes exactly `Op.pops` values
    from the top of the stack — tealer's `stack_pop_size` —, leaves everything below untouched and pushes exactly
    `Op.pushes` values.  (The generic opcodes — `Op.other` with the effect tealer declares — are compared with the
    specification table row by row in `C11_effects_table`.)  With `C11_sim_step` this is what makes the reconstructed operand
    of a comparison the value the AVM passes to it. -/
theorem C11_semantics_effect (prog : List Ins) (e : Avm.Env) (s s' : Avm.State) (i : Ins) (hi : prog[s.pc]? = some i)
    (hno : ∀ name po pu, i.op ≠ .other name po pu) (hs : Avm.step prog e s = .next s') :
    i.op.pops ≤ s.stack.length ∧
      ∃ pushed : List Avm.Val, pushed.length = i.op.pushes ∧
        s'.stack = s.stack.take (s.stack.length - i.op.pops) ++ pushed :=
  StackEffect.step_effect prog e s s' i hi hno hs

/-- the reconstructed operands are the values the AVM passes: along a block, keep for every tag (q, j) the value instruction
    q pushed as output j (`valOf`).  If the symbolic stack agrees with the concrete stack before a step of a dedicated
    opcode (tagged cells hold the recorded values; Unknown cells are values from before the block), then
    * the operand list `astStep` — one step of construct_stack_ast — reconstructs for this instruction agrees position by
      position with the values the instruction really pops: a reference (q, j) is the value instruction q pushed as its
      output j, and
    * the symbolic stack after the step agrees with the concrete stack after the step, with the instruction's own outputs
      recorded.
    By induction along the block this is the link between a matched leaf (`txn Fee` compared with `int c`) and the concrete
    comparison the AVM performs. -/
theorem C11_operands_are_runtime_values (prog : List Ins) (e : Avm.Env) (s s' : Avm.State) (i : Ins) (p : Nat)
    (hi : prog[s.pc]? = some i) (hno : ∀ name po pu, i.op ≠ .other name po pu) (hs : Avm.step prog e s = .next s')
    (valOf : Nat × Nat → Avm.Val) (sym : List Ref) (hsim : OperandValues.VSim valOf sym s.stack)
    (hfresh : ∀ c ∈ sym, ∀ q, c = some q → q.1 ≠ p) :
    ∃ pushed : List Avm.Val, pushed.length = i.op.pushes ∧
      List.Forall₂ (OperandValues.Agree valOf) (astStep sym p i.op).1 (s.stack.drop (s.stack.length - i.op.pops)) ∧
      OperandValues.VSim (OperandValues.extend valOf p pushed) (astStep sym p i.op).2 s'.stack := by
  obtain ⟨hpops, pushed, hlen, hstack⟩ := StackEffect.step_effect prog e s s' i hi hno hs
  obtain ⟨hargs, hnext⟩ := OperandValues.vsim_step p hsim hpops
  exact ⟨pushed, hlen, hargs, hstack ▸ hnext pushed hlen hfresh⟩

/-- the premises are satisfiable: at block entry the symbolic stack is empty and agrees with any concrete stack -/
example (valOf : Nat × Nat → Avm.Val) (st : List Avm.Val) : OperandValues.VSim valOf [] st :=
  ⟨st, [], by simp, List.Forall₂.nil⟩

/-- the stack AST of a block denotes the values of its execution: for any straight run of the concrete machine through the
    first `k` instructions (dedicated opcodes) of a block, there is one assignment of values to producer references —
    (q, j) ↦ the value the block's instruction q pushed as output j — under which, for every instruction of the run, the
    operand list that `constructAst` (the model of construct_stack_ast) stores for it agrees position by position with
    the values that instruction really popped from the AVM stack; Unknown operands are values from before the block. -/
theorem C11_block_operands (prog : List Ins) (e : Avm.Env) (blockIns : List Ins) (pc0 k : Nat) (st : Nat → Avm.State)
    (hrun : OperandValues.BlockRun prog e blockIns pc0 k st) :
    ∃ valOf : Nat × Nat → Avm.Val, ∀ j, j < k →
      List.Forall₂ (OperandValues.Agree valOf) ((constructAst blockIns).argsOf j)
        ((st j).stack.drop ((st j).stack.length - (blockIns[j]!).op.pops)) := by
  refine ⟨OperandValues.runVal blockIns st, fun j hj => ?_⟩
  rw [OperandValues.argsOf_constructAst blockIns j (Nat.lt_of_lt_of_le hj hrun.len)]
  exact hrun.realised.args j hj

/-- `construct_stack_ast` is the model's: `Stack.pop_n_values` (with Python's negative slices and the `count == 0` guard, the
    padding with UnknownStackValue when the block consumes values from before it), `Stack.push_n_values` and the loop of
    `construct_stack_ast`, translated statement by statement from /repo's Python on this run (Generated/StackAst.lean), build for
    every instruction `p` of every block exactly the tree that the model's operand references unfold to: what
    `C11_operands_are_runtime_values` / `C11_block_operands` prove about `constructAst` is thereby a statement about the Python -/
theorem C11_tie_construct_stack_ast (ins : List Ins) :
    Generated.constructStackAst (TieS.insInfos ins) =
      (List.range ins.length).map fun p => TieA.full (constructAst ins) (some (p, 0)) :=
  TieS.construct_tie ins

/-- ... and `TieA.full` is the tree the other tie theorems (leaf matchers, `_get_asserted`, block / edge constraints) are stated
    for, at every depth beyond the position -/
theorem C11_tie_tree_depth (ins : List Ins) (p o n : Nat) (h : p < n) :
    treeOf (constructAst ins) n (some (p, o)) = TieA.full (constructAst ins) (some (p, o)) :=
  TieA.tree_full _ (TieA.backward_constructAst ins) n _ h

/-- non-vacuity / a test of the translation by the kernel: a block that consumes two values from before it at different times
    (`==; assert; int 3; ==`): the second `==` gets an unknown first operand, not a stale producer -/
example :
    let ins : List Ins := [⟨1, .txn "GroupIndex", "txn GroupIndex"⟩, ⟨2, .cmp .eq, "=="⟩, ⟨3, .assert, "assert"⟩, ⟨4, .int (.lit 3), "int 3"⟩, ⟨5, .cmp .eq, "=="⟩]
    (((Generated.constructStackAst (TieS.insInfos ins)).getD 4 .unknown).arg 0).isUnknown = true ∧
      (((Generated.constructStackAst (TieS.insInfos ins)).getD 4 .unknown).arg 1).pos? = some 3 := by
  decide +kernel

end Tealer.C11
