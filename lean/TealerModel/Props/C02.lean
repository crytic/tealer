/-
  C02 — Every reported path is a genuine, unvalidated accepting path.
-/
import TealerModel.Props.TieSearch
import TealerModel.Lemmas.Dfs
namespace Tealer.C02

/-- every path the search returns is the current path extended by a matched walk of the global graph (retsub resumes
    at the return point of its own callsub), ending in a leaf, revisiting no block within one activation,
    entering no subroutine recursively, and containing no validated block -/
theorem C02_valid (g : DGraph) (fuel bb : Nat) (path : List Nat) (cs : List Frame) (exe ps : List (List Nat))
    (h : searchPaths g fuel bb path cs exe = some ps) :
    ∀ π ∈ ps, ∃ rest, π = path ++ bb :: rest ∧ Dfs.Walk g cs exe bb rest :=
  Dfs.searchPaths_valid g fuel bb path cs exe ps h

/-- for a whole detector run: every reported path starts at the entry, ends in a leaf, has no validated block -/
theorem C02_detector (g : DGraph) (fuel entry : Nat) (main : String) (ps : List (List Nat))
    (h : searchPaths g fuel entry [] [(none, main)] [[]] = some ps) (π : List Nat) (hπ : π ∈ ps) :
    ∃ rest, π = entry :: rest ∧ (∀ x ∈ π, g.validated x = false) ∧
      g.isLeaf ((entry :: rest).getLast (by simp)) = true := by
  obtain ⟨rest, rfl, hw⟩ := Dfs.searchPaths_valid g fuel entry [] _ _ ps h π hπ
  exact ⟨rest, rfl, Dfs.walk_unvalidated hw, Dfs.walk_ends_in_leaf hw⟩

/-- no path is reported twice (when no successor list names a block twice — the fourth pass never adds an edge twice; the
    driver evaluates this premise on every program) -/
theorem C02_no_duplicates (g : DGraph) (hg : ∀ b, (g.next b).Nodup) (fuel entry : Nat) (main : String)
    (ps : List (List Nat)) (h : searchPaths g fuel entry [] [(none, main)] [[]] = some ps) : ps.Nodup :=
  Dfs.searchPaths_nodup g hg fuel entry [] _ _ ps h

/-- the short notation of a path, `'0 -> 2 -> 5'` -/
def shortNotation (p : List Nat) : String := " -> ".intercalate (p.map toString)

example : shortNotation [0, 2, 5] = "0 -> 2 -> 5" := by decide

/-- the search is the Python's: `search_paths` (the nested function of detect_missing_tx_field_validations: loop cut per
    activation, validated blocks, leaves and the report condition, the recursion cut, call / return handling, successor
    order), translated statement by statement from /repo's Python on this run - with the shared result list threaded through -
    computes exactly what the model `searchPaths` computes, for every fuel, start block, path prefix, call stack and visited
    lists: the reported paths are the ones already in the list followed by the model's paths that satisfy the report condition,
    in the same order, and it raises exactly when the model does.  (On graphs whose call sites resolve; in the graph a detector
    searches a call site is never a `retsub` block and always names its subroutine: `TieS.mkDGraph_calls`.) -/
theorem C02_tie_search (g : DGraph) (hg : TieS.CallsOK g) (sat : List Nat → Bool) (fuel bb : Nat) (path : List Nat)
    (acc : List (List Nat)) (cs : List (Option Nat × String)) (exe : List (List Nat)) :
    Generated.searchPaths (TieS.graphOf g) sat fuel bb path acc cs exe =
      (searchPaths g fuel bb path cs exe).map (fun ps => acc ++ ps.filter sat) :=
  TieS.search_tie g hg sat fuel bb path acc cs exe

end Tealer.C02
