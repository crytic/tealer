/-
  C15 — Verdicts are invariant under meaning-preserving rewrites of the source.
  Proved on the model: the analyses see an integer literal only through `intPush` / `intLit`, so spelling it with
  `int`, `pushint` or an entry-block `intcblock` + `intc` gives the same value; named type / completion constants denote
  the numbers of the tables; a stack-neutral padding pair leaves the symbolic stack unchanged; labels are resolved by
  name only.  (Decimal / hex / octal spellings are equal after parsing — Python's int() — and are compared on the real
  parser in C16.)  The end-to-end relation is checked metamorphically on every run (harness/metachecks.py).
-/
import TealerModel.Ast
import TealerModel.Dom
import TealerModel.Cfg
import TealerModel.Lemmas.Padding
namespace Tealer.C15

/-- `int c`, `pushint c` and `intc i` with an entry-block intcblock holding c at position i push the same known value -/
theorem C15_int_spellings (cs : List Nat) (i c : Nat) (h : cs[i]? = some c) :
    intPush (some cs) (.int (.lit c)) = some (some (.lit c)) ∧
    intPush (some cs) (.pushint (.lit c)) = some (some (.lit c)) ∧
    intPush (some cs) (.intc i) = some (some (.lit c)) := by
  simp [intPush, h]

/-- a type / completion action named by word or by number denotes the same label -/
theorem C15_named_constants :
    (typeToType (.named "pay") = typeToType (.lit 1)) ∧ (typeToType (.named "keyreg") = typeToType (.lit 2)) ∧
    (typeToType (.named "acfg") = typeToType (.lit 3)) ∧ (typeToType (.named "axfer") = typeToType (.lit 4)) ∧
    (typeToType (.named "afrz") = typeToType (.lit 5)) ∧ (typeToType (.named "appl") = typeToType (.lit 6)) ∧
    (oncompletionToType (.named "NoOp") = oncompletionToType (.lit 0)) ∧
    (oncompletionToType (.named "OptIn") = oncompletionToType (.lit 1)) ∧
    (oncompletionToType (.named "CloseOut") = oncompletionToType (.lit 2)) ∧
    (oncompletionToType (.named "ClearState") = oncompletionToType (.lit 3)) ∧
    (oncompletionToType (.named "UpdateApplication") = oncompletionToType (.lit 4)) ∧
    (oncompletionToType (.named "DeleteApplication") = oncompletionToType (.lit 5)) := by
  decide +kernel

/-- stack-neutral padding (`int k; pop` between statements): the symbolic stack after the pair is the stack before it -/
theorem C15_padding_neutral (st : List Ref) (p : Nat) (k : IntVal) :
    (astStep (astStep st p (.int k)).2 (p + 1) (.other "pop" 1 0)).2 = st := by
  simp [astStep, popN, show (Op.int k).pops = 0 from rfl, show (Op.int k).pushes = 1 from rfl,
    show (Op.other "pop" 1 0).pops = 1 from rfl, show (Op.other "pop" 1 0).pushes = 0 from rfl]

/-- labels are resolved by name only: renaming every label consistently (an injective renaming applied to definitions
    and uses) resolves every jump to the same instruction position -/
theorem C15_label_lookup_rename (labels : List (String × Nat)) (ρ : String → String)
    (hinj : ∀ a b, ρ a = ρ b → a = b) (l : String) :
    lookupLabel (labels.map fun (n, k) => (ρ n, k)) (ρ l) = lookupLabel labels l := by
  -- on the renamed table the test for `ρ l` is the test for `l`
  have hkey : ((fun x : String × Nat => x.1 == ρ l) ∘ fun (n, k) => (ρ n, k)) = fun x => x.1 == l := by
    funext x
    exact Bool.eq_iff_iff.mpr
      ⟨fun h => beq_iff_eq.mpr (hinj _ _ (eq_of_beq h)), fun h => beq_iff_eq.mpr (congrArg ρ (eq_of_beq h))⟩
  unfold lookupLabel
  rw [← List.map_reverse, List.find?_map, hkey]
  cases labels.reverse.find? (fun x => x.1 == l) <;> rfl

/-- inserting stack-neutral padding between statements: for every block `pre ++ post` and the block `pre ++ [int c, pop] ++ post`, the
    stack AST (the model `constructAst` that `C11_tie_construct_stack_ast` shows to be what the Python builds) gives every
    instruction before the padding the same operand references, and every instruction after it the references it had, with the
    positions at or after the insertion point moved by two.  So every comparison is attributed to the same field reads and the
    same constants as before, whatever the block - the per-instruction premise of the metamorphic check for the padding rewrite -/
theorem C15_padding_operands (pre post : List Ins) (c : IntVal) (l1 l2 : Nat) (t1 t2 : String) :
    let pad : List Ins := [⟨l1, .int c, t1⟩, ⟨l2, .other "pop" 1 0, t2⟩]
    (∀ j, j < pre.length → OperandValues.argsAt (pre ++ pad ++ post) j = OperandValues.argsAt (pre ++ post) j) ∧
    (∀ j, j < post.length →
      OperandValues.argsAt (pre ++ pad ++ post) (pre.length + 2 + j) =
        (OperandValues.argsAt (pre ++ post) (pre.length + j)).map (Padding.shiftRef pre.length 2)) := by
  intro pad
  have hpad : OperandValues.symRun (pre ++ pad ++ post) (pre.length + pad.length) =
      OperandValues.symRun (pre ++ pad ++ post) pre.length := by
    have e1 : (pre ++ pad ++ post)[pre.length]! = ⟨l1, .int c, t1⟩ := by
      rw [List.append_assoc]
      exact Padding.getElem!_append_right pre (pad ++ post) 0
    have e2 : (pre ++ pad ++ post)[pre.length + 1]! = ⟨l2, .other "pop" 1 0, t2⟩ := by
      rw [List.append_assoc]
      exact Padding.getElem!_append_right pre (pad ++ post) 1
    rw [show pre.length + pad.length = pre.length + 1 + 1 from rfl, OperandValues.symRun, OperandValues.symRun, e1, e2]
    exact C15_padding_neutral _ _ _
  obtain ⟨hbefore, hafter⟩ := Padding.insert_neutral pre pad post hpad
  exact ⟨hbefore, fun j _ => hafter j⟩

/-- respelling a push (`int c` -> `pushint c` -> `intc i` / `intc_k`, a named constant -> its number): two blocks whose instructions
    have pairwise the same pop and push counts - every integer push pops 0 and pushes 1 - have the same operand references at
    every instruction; together with `C15_int_spellings` (the matchers read the same value from each spelling) every comparison is
    read exactly as before -/
theorem C15_respelling_operands (a b : List Ins)
    (h : ∀ i : Nat, (a[i]!).op.pops = (b[i]!).op.pops ∧ (a[i]!).op.pushes = (b[i]!).op.pushes) (j : Nat) :
    OperandValues.argsAt a j = OperandValues.argsAt b j := by
  rw [OperandValues.argsAt, OperandValues.argsAt, astStep, astStep, Padding.symRun_effects a b h j, (h j).1]

example : (Op.int (.lit 5)).pops = (Op.pushint (.lit 5)).pops ∧ (Op.int (.lit 5)).pushes = (Op.intc 2).pushes ∧ (Op.pushint (.named "pay")).pops = (Op.intc 0).pops := by
  decide

/-- non-vacuity: `txn Fee; [int 7; pop;] int 1000; <=`: the comparison at position 2 reads (0, 0) and (1, 0); after the padding it
    sits at position 4 and reads (0, 0) and (3, 0) -/
example :
    let pre : List Ins := [⟨1, .txn "Fee", ""⟩]
    let post : List Ins := [⟨2, .int (.lit 1000), ""⟩, ⟨3, .cmp .le, ""⟩]
    OperandValues.argsAt (pre ++ post) 2 = [some (0, 0), some (1, 0)] ∧
      OperandValues.argsAt (pre ++ [⟨9, .int (.lit 7), ""⟩, ⟨9, .other "pop" 1 0, ""⟩] ++ post) 4 = [some (0, 0), some (3, 0)] := by
  decide +kernel

example : intPush (some [0, 1, 1000]) (.intc 2) = some (some (.lit 1000)) := by decide

end Tealer.C15
