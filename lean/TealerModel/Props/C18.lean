/-
  C18 — Exported graphs and reports denote exactly the internal results.
  Decision logic of the JSON envelope and of --filter-paths stated outright on a small model of
  tealer/utils/output.py and tealer/__main__.py handle_output; the DOT / JSON files themselves are parsed back
  and compared with the internal results on every run (harness/clichecks.py).
-/
import TealerModel.Props.C02
import TealerModel.Lemmas.NumList
namespace Tealer.C18

structure PathJson where
  short : String
  blocks : List (List String)

structure DetectorJson where
  count : Nat
  paths : List PathJson

/-- ExecutionPaths.to_json, given the rendering of a block's instructions -/
def toJson (render : Nat → List String) (paths : List (List Nat)) : DetectorJson :=
  { count := paths.length,
    paths := paths.map fun p => { short := C02.shortNotation p, blocks := p.map render } }

/-- `count` equals the number of listed paths, and each listed path has one instruction list per block of the path
    (a block that occurs twice on a path is listed twice) -/
theorem C18_count (render : Nat → List String) (paths : List (List Nat)) :
    (toJson render paths).count = (toJson render paths).paths.length ∧
    ∀ i (h : i < paths.length), (((toJson render paths).paths[i]'(by simp [toJson, h])).blocks.length = (paths[i]).length) := by
  constructor
  · simp [toJson]
  · intro i h; simp [toJson]

/-- handle_output: `success` is true exactly when no error occurred (repaired in /repo, known_findings F10) -/
def success (error : Option String) : Bool := error.isNone

theorem C18_success (error : Option String) : success error = true ↔ error = none := by
  cases error <;> simp [success]

/-- ExecutionPaths.filter_paths, parametric in the regular-expression matcher (Python's re.search is external) -/
def filterPaths (matches_ : String → Bool) (paths : List (List Nat)) : List (List Nat) :=
  paths.filter fun p => !matches_ (C02.shortNotation p)

/-- the filter removes exactly the paths whose short notation matches, keeps the others in order -/
theorem C18_filter (m : String → Bool) (paths : List (List Nat)) (p : List Nat) :
    p ∈ filterPaths m paths ↔ p ∈ paths ∧ m (C02.shortNotation p) = false := by
  simp [filterPaths]

theorem C18_filter_sublist (m : String → Bool) (paths : List (List Nat)) : (filterPaths m paths).Sublist paths := by
  simp [filterPaths]

/-- path DOT files: a block is marked iff its id is the id of a block of the path (repaired in /repo, F12) -/
def marked (path : List Nat) (blockIdx : Nat) : Bool := path.contains blockIdx

theorem C18_marks (path : List Nat) (b : Nat) : marked path b = true ↔ b ∈ path := by simp [marked]

example : (toJson (fun _ => []) [[0, 1], [0, 2]]).count = 2 := by decide

/-- block annotations show the computed contexts: the short notation in which the transaction-context printer writes a block's group
    indices / sizes (`_repr_num_list`: runs of four or more consecutive numbers as `a..b`) denotes exactly the list that was printed,
    for every list of numbers - whatever the runs, including a run that starts at 0.  (The model `NumList.repr` is compared with the
    real `_repr_num_list` on all 131072 subsets of 0..16 - every value a context can have - on every run.) -/
theorem C18_annotation_denotes (l : List Nat) : NumList.denote (NumList.toks l) = l := by
  obtain ⟨hf, hc⟩ := NumList.groupRuns_spec l
  rw [NumList.toks, NumList.runs_denote _ hc, hf]

example : NumList.repr [0, 2, 3, 4, 5, 9] = "0 2..5 9" ∧ NumList.denote (NumList.toks [0, 2, 3, 4, 5, 9]) = [0, 2, 3, 4, 5, 9] := by decide +kernel

end Tealer.C18
