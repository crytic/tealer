/-
  Tie between the hand-written model of the leaf matchers (Ast.lean, Dom.lean) and the functions regenerated from /repo's
  Python on every run by the statement-by-statement translator (Generated/Matchers.lean): is_int_push_ins, _get_index,
  get_index_and_field, is_value_matches_key, and the `_get_asserted_*` matchers of the four analyses.  If the Python of one
  of these functions changes meaning, the corresponding theorem stops checking.
-/
import TealerModel.Generated.Matchers
import TealerModel.Props.Tie
import TealerModel.Lemmas.OperandValues
namespace Tealer.TieM
open PyView

/-- `teal.get_int_constant`, from the model's `intcs` (the constants of the single entry-block `intcblock`, or `none` when
    tealer does not know them: `Teal._int_constants` is then empty) -/
def gic (intcs : Option (List Nat)) (i : Nat) : Bool × Nat :=
  match intcs with
  | some cs => (match cs[i]? with | some n => (true, n) | none => (false, 0))
  | none => (false, 0)
/-- the surroundings of the translated functions -/
def envOf (intcs : Option (List Nat)) : PyView.Env := { getIntConstant := gic intcs }

theorem gic_none (i : Nat) : gic none i = (false, 0) := rfl
theorem gic_hit (cs : List Nat) (i n : Nat) (h : cs[i]? = some n) : gic (some cs) i = (true, n) := by simp only [gic, h]
theorem gic_miss (cs : List Nat) (i : Nat) (h : cs[i]? = none) : gic (some cs) i = (false, 0) := by simp only [gic, h]

/-- `is_int_push_ins` in the shape the Python returns it -/
def ipOf (intcs : Option (List Nat)) (op : Op) : Bool × Option IntVal :=
  match intPush intcs op with | some v => (true, v) | none => (false, none)

/-- the stack AST gives every instruction as many arguments as it pops (true of `constructAst`: `arity_constructAst`) -/
def Arity (a : Ast) : Prop := ∀ p, (a.argsOf p).length = (a.opOf p).pops

/-- the Python's TransactionIndex for the model's index -/
def fromIdx : IndexType → Generated.GIndex
  | .self => { indexType := Generated.IndexType_Self, value := 0 }
  | .absolute i => { indexType := Generated.IndexType_Absolute, value := (i : Int) }
  | .relative k => { indexType := Generated.IndexType_Relative, value := k }
  | .unknown => { indexType := Generated.IndexType_Unknown, value := 0 }

theorem tree_succ (a : Ast) (n p o : Nat) :
    treeOf a (n + 1) (some (p, o)) = .known p (a.opOf p) (a.textOf p) ((a.argsOf p).map (treeOf a n)) := rfl

theorem tree_instruction (a : Ast) (n p o : Nat) : (treeOf a n (some (p, o))).instruction = a.opOf p := by
  cases n <;> rfl

theorem tree_pos (a : Ast) (n p o : Nat) : (treeOf a n (some (p, o))).pos? = some p := by cases n <;> rfl

theorem tree_isUnknown (a : Ast) (n : Nat) (r : Ref) : (treeOf a n r).isUnknown = r.isNone := by
  cases r with
  | none => cases n <;> rfl
  | some q => obtain ⟨p, o⟩ := q; cases n <;> rfl

theorem treeOf_none (a : Ast) (n : Nat) : treeOf a n none = .unknown := by cases n <;> rfl

theorem tree_arg (a : Ast) (n p o i : Nat) :
    (treeOf a (n + 1) (some (p, o))).arg i = treeOf a n ((a.argsOf p).getD i none) := by
  simp only [tree_succ, PySV.arg, List.getD_eq_getElem?_getD, List.getElem?_map]
  cases (a.argsOf p)[i]? with
  | none => exact (treeOf_none a n).symm
  | some r => rfl

theorem known_instruction (p : Nat) (op : Op) (t : String) (args : List PySV) : (PySV.known p op t args).instruction = op := rfl
theorem known_arg (p : Nat) (op : Op) (t : String) (args : List PySV) (i : Nat) :
    (PySV.known p op t args).arg i = args.getD i .unknown := rfl

theorem Arity.args1 {a : Ast} (hA : Arity a) {p : Nat} (h : (a.opOf p).pops = 1) : ∃ r, a.argsOf p = [r] :=
  List.length_eq_one_iff.mp ((hA p).trans h)
theorem Arity.args2 {a : Ast} (hA : Arity a) {p : Nat} (h : (a.opOf p).pops = 2) : ∃ r1 r2, a.argsOf p = [r1, r2] :=
  match a.argsOf p, (hA p).trans h with
  | [r1, r2], _ => ⟨r1, r2, rfl⟩

/-- what every `_get_asserted_*` matcher asks first: a comparison (then of two operands) or not -/
theorem Arity.cmp_or_not {a : Ast} (hA : Arity a) (p : Nat) :
    (∃ c r1 r2, a.opOf p = .cmp c ∧ a.argsOf p = [r1, r2]) ∨ ¬ ∃ c, a.opOf p = .cmp c := by
  by_cases hc : ∃ c, a.opOf p = .cmp c
  · obtain ⟨c, hop⟩ := hc
    obtain ⟨r1, r2, hargs⟩ := hA.args2 (p := p) (by rw [hop]; rfl)
    exact .inl ⟨c, r1, r2, hop, hargs⟩
  · exact .inr hc

/-! The depth of the stack value in a tie theorem (`n + 1`, `n + 2`, `n + 3`) is the number of levels its Python function looks
    down: operands, their operands (the index of a `gtxns`), and the operands of those (`GroupIndex ± k`). -/

/-- the stack value of a unary / binary node, one level unfolded: what the matchers read of it -/
theorem tree_node1 (a : Ast) (n p o : Nat) {r : Ref} (h : a.argsOf p = [r]) :
    treeOf a (n + 1) (some (p, o)) = .known p (a.opOf p) (a.textOf p) [treeOf a n r] := by
  rw [tree_succ, h]; rfl
theorem tree_node2 (a : Ast) (n p o : Nat) {r1 r2 : Ref} (h : a.argsOf p = [r1, r2]) :
    treeOf a (n + 1) (some (p, o)) = .known p (a.opOf p) (a.textOf p) [treeOf a n r1, treeOf a n r2] := by
  rw [tree_succ, h]; rfl

/-- What an `isinstance` test that holds says of the model's instruction, `c` being the instruction's class; one field for each
    class the translated functions test for. -/
structure OfClass (c : String) (op : Op) : Prop where
  sub : c = "Sub" → op = .sub
  add : c = "Add" → op = .add
  not : c = "Not" → op = .not
  and : c = "And" → op = .and
  or : c = "Or" → op = .or
  eq : c = "Eq" → op = .cmp .eq
  neq : c = "Neq" → op = .cmp .neq
  cmp : (c == "Eq" || c == "Neq" || c == "Less" || c == "LessE" || c == "Greater" || c == "GreaterE") = true → ∃ k, op = .cmp k
  assert : c = "Assert" → op = .assert
  ret : c = "Return" → op = .ret
  err : c = "Err" → op = .err
  customErr : c = "TealerCustomErrInstruction" → op = .customErr
  int : c = "Int" → ∃ v, op = .int v
  pushint : c = "PushInt" → ∃ v, op = .pushint v
  intc : c = "IntcInstruction" → ∃ i, op = .intc i
  txn : c = "Txn" → ∃ f, op = .txn f
  gtxn : c = "Gtxn" → ∃ i f, op = .gtxn i f
  gtxns : c = "Gtxns" → ∃ f, op = .gtxns f
  global : c = "Global" → ∃ f, op = .global f
  bz : c = "BZ" → ∃ l, op = .bz l
  bnz : c = "BNZ" → ∃ l, op = .bnz l

/-- `pyClass` gives each of these instructions a class of its own.  The proofs below read the class tests through this theorem and
    never split on the 32 constructors themselves: two class names are told apart here only. -/
theorem ofClass (op : Op) : OfClass (pyClass op) op := by
  have other : OfClass "Instruction" op := by
    constructor <;> intro h <;> simp only [String.reduceEq, String.reduceBEq, Bool.or_self, Bool.false_eq_true] at h
  cases op <;> (try cases ‹Cmp›)
  case pragma | label | b | switch | match_ | callsub | retsub | intcblock | bytecblock | gtxnImm | gtxnStk | other => exact other
  all_goals
    dsimp only [pyClass]
    constructor <;> intro h <;>
      simp only [String.reduceEq, String.reduceBEq, Bool.or_self, Bool.or_false, Bool.or_true, Bool.false_eq_true] at h
    -- every test but the one for the instruction's own class has failed
    all_goals first | rfl | exact ⟨_, rfl⟩ | exact ⟨_, _, rfl⟩

theorem not_isClass {op k : Op} (h : isClass op (pyClass k) = false) : op ≠ k := by
  rintro rfl; rw [isClass, beq_self_eq_true] at h; cases h

theorem isClass_of_inj {op k : Op} (h : pyClass op = pyClass k → op = k) : isClass op (pyClass k) = (op == k) := by
  rw [Bool.eq_iff_iff, isClass, beq_iff_eq, beq_iff_eq]; exact ⟨h, fun e => e ▸ rfl⟩

theorem isSub_eq (op : Op) : isClass op "Sub" = (op == .sub) := isClass_of_inj (k := .sub) (ofClass op).sub
theorem isAdd_eq (op : Op) : isClass op "Add" = (op == .add) := isClass_of_inj (k := .add) (ofClass op).add
theorem isNot_eq (op : Op) : isClass op "Not" = (op == .not) := isClass_of_inj (k := .not) (ofClass op).not
theorem isAnd_eq (op : Op) : isClass op "And" = (op == .and) := isClass_of_inj (k := .and) (ofClass op).and
theorem isOr_eq (op : Op) : isClass op "Or" = (op == .or) := isClass_of_inj (k := .or) (ofClass op).or
theorem isEq_eq (op : Op) : isClass op "Eq" = (op == .cmp .eq) := isClass_of_inj (k := .cmp .eq) (ofClass op).eq
theorem isNeq_eq (op : Op) : isClass op "Neq" = (op == .cmp .neq) := isClass_of_inj (k := .cmp .neq) (ofClass op).neq
theorem isAssert_eq (op : Op) : isClass op "Assert" = (op == .assert) := isClass_of_inj (k := .assert) (ofClass op).assert
theorem isReturn_eq (op : Op) : isClass op "Return" = (op == .ret) := isClass_of_inj (k := .ret) (ofClass op).ret
theorem isErr_eq (op : Op) : isClass op "Err" = (op == .err) := isClass_of_inj (k := .err) (ofClass op).err
theorem isCustomErr_eq (op : Op) : isClass op "TealerCustomErrInstruction" = (op == .customErr) :=
  isClass_of_inj (k := .customErr) (ofClass op).customErr
theorem isEqNeq_eq (op : Op) : (isClass op "Eq" || isClass op "Neq") = (op == .cmp .eq || op == .cmp .neq) := by
  rw [isEq_eq, isNeq_eq]

/-- the field tests `isinstance(ins, Global) and isinstance(ins.field, GroupSize)` / `... Txn ... GroupIndex` -/
theorem isGS_eq (op : Op) : (isClass op "Global" && fieldOf op == "GroupSize") = (op == .global "GroupSize") := by
  rw [Bool.eq_iff_iff, Bool.and_eq_true, beq_iff_eq, beq_iff_eq]
  constructor
  · rintro ⟨h, e⟩; obtain ⟨g, rfl⟩ := (ofClass op).global (eq_of_beq h); exact congrArg _ e
  · rintro rfl; exact ⟨beq_self_eq_true _, rfl⟩
theorem isGI_eq (op : Op) : (isClass op "Txn" && fieldOf op == "GroupIndex") = (op == .txn "GroupIndex") := by
  rw [Bool.eq_iff_iff, Bool.and_eq_true, beq_iff_eq, beq_iff_eq]
  constructor
  · rintro ⟨h, e⟩; obtain ⟨g, rfl⟩ := (ofClass op).txn (eq_of_beq h); exact congrArg _ e
  · rintro rfl; exact ⟨beq_self_eq_true _, rfl⟩

theorem cmp_beq (c c' : Cmp) : (Op.cmp c == Op.cmp c') = (c == c') := by
  rw [Bool.eq_iff_iff]; simp only [beq_iff_eq, Op.cmp.injEq]
theorem cmp_beq_not (c : Cmp) : (Op.cmp c == Op.not) = false := rfl

theorem beq_cmp_false {op : Op} (h : ¬ ∃ c, op = .cmp c) (c : Cmp) : (op == Op.cmp c) = false :=
  beq_eq_false_iff_ne.mpr fun e => h ⟨c, e⟩

/-- the guard `isinstance(ins, (Eq, Neq, Less, LessE, Greater, GreaterE))` -/
theorem isCmp6_eq (op : Op) :
    (isClass op "Eq" || isClass op "Neq" || isClass op "Less" || isClass op "LessE" || isClass op "Greater" || isClass op "GreaterE") =
      (op == .cmp (cmpOf op)) := by
  rw [Bool.eq_iff_iff, beq_iff_eq]
  constructor
  · intro h; obtain ⟨k, rfl⟩ := (ofClass op).cmp h; rfl
  · intro h
    rw [h]
    -- the test for the comparison's own class holds, whatever the others say
    cases cmpOf op <;> dsimp only [isClass, pyClass] <;> simp only [beq_self_eq_true, Bool.or_true, Bool.true_or]

/-- `is_int_push_ins` tests three classes in turn; `intPush` matches on their constructors -/
theorem isIntPush_tie (intcs : Option (List Nat)) (op : Op) :
    Generated.isIntPushIns (envOf intcs) op = ipOf intcs op := by
  unfold Generated.isIntPushIns
  cases h1 : isClass op "Int"
  case true => obtain ⟨v, rfl⟩ := (ofClass op).int (eq_of_beq h1); rfl
  cases h2 : isClass op "PushInt"
  case true => obtain ⟨v, rfl⟩ := (ofClass op).pushint (eq_of_beq h2); rfl
  cases h3 : isClass op "IntcInstruction"
  case true =>
    obtain ⟨i, rfl⟩ := (ofClass op).intc (eq_of_beq h3)
    rcases intcs with _ | cs
    · rfl
    · cases h : cs[i]? with
      | none => simp only [ipOf, intPush, envOf, indexOf, h, gic_miss cs i h]; rfl
      | some n => simp only [ipOf, intPush, envOf, indexOf, h, gic_hit cs i n h]; rfl
  case false =>
    have : intPush intcs op = none := by
      unfold intPush
      split
      · exact absurd rfl (not_isClass h1)
      · exact absurd rfl (not_isClass h2)
      · exact absurd rfl (not_isClass h3)
      · rfl
    rw [ipOf, this]; rfl

theorem getIndex_tie (intcs : Option (List Nat)) (a : Ast) (hA : Arity a) (n q o : Nat) :
    Generated.getIndex (envOf intcs) (treeOf a (n + 1) (some (q, o))) = fromIdx (getIndex intcs a q) := by
  -- the Python's tests in their order: `txn GroupIndex` (self), an int push (absolute), `a - b` / `a + b` with `txn GroupIndex` on one
  -- side and a literal on the other (relative), anything else (unknown)
  unfold Generated.getIndex getIndex
  simp only [tree_instruction, isIntPush_tie, isGI_eq, isSub_eq, isAdd_eq, ipOf]
  by_cases h0 : (a.opOf q == .txn "GroupIndex") = true
  · simp only [h0, ↓reduceIte]; rfl
  simp only [h0, ↓reduceIte, Bool.false_eq_true]
  rcases hv : intPush intcs (a.opOf q) with _ | v
  case some => rcases v with _ | _ | _ <;> rfl
  by_cases hs : a.opOf q = .sub
  · obtain ⟨r1, r2, hargs⟩ := hA.args2 (p := q) (by rw [hs]; rfl)
    simp only [hs, hargs, tree_arg, tree_isUnknown, List.getD_cons_zero, List.getD_cons_succ, beq_self_eq_true, ↓reduceIte]
    rcases r1 with _ | ⟨p1, o1⟩ <;> rcases r2 with _ | ⟨p2, o2⟩
    case some.some =>
      simp only [tree_instruction, intLit]
      generalize intPush intcs (a.opOf p2) = i
      cases h1 : a.opOf p1 == .txn "GroupIndex" <;> simp only [isGroupIndexRead, h1] <;> rcases i with _ | _ | _ | _ <;> rfl
    all_goals rfl
  by_cases ha : a.opOf q = .add
  · obtain ⟨r1, r2, hargs⟩ := hA.args2 (p := q) (by rw [ha]; rfl)
    simp only [ha, hargs, tree_arg, tree_isUnknown, List.getD_cons_zero, List.getD_cons_succ, beq_self_eq_true, ↓reduceIte,
      show (Op.add == Op.sub) = false from rfl, Bool.false_eq_true]
    rcases r1 with _ | ⟨p1, o1⟩ <;> rcases r2 with _ | ⟨p2, o2⟩
    case some.some =>
      simp only [tree_instruction]
      cases h1 : a.opOf p1 == .txn "GroupIndex"
      · cases h2 : a.opOf p2 == .txn "GroupIndex" <;> simp only [isGroupIndexRead, h1, h2, intLit, Bool.false_eq_true, ↓reduceIte]
        · rfl
        · generalize intPush intcs (a.opOf p1) = i
          rcases i with _ | _ | _ | _ <;> rfl
      · simp only [isGroupIndexRead, h1, intLit, ↓reduceIte]
        generalize intPush intcs (a.opOf p2) = i
        rcases i with _ | _ | _ | _ <;> rfl
    all_goals rfl
  simp only [beq_eq_false_iff_ne.mpr hs, beq_eq_false_iff_ne.mpr ha, Bool.false_and, Bool.false_eq_true, ↓reduceIte]
  split
  · exact absurd ‹_› hs
  · exact absurd ‹_› ha
  · rfl

def fromIF : Option (IndexType × String) → Bool × Option Generated.GIndex × Option String
  | none => (false, none, none)
  | some (ix, f) => (true, some (fromIdx ix), some f)

/-- `get_index_and_field` tests three classes in turn; the model matches on their constructors -/
theorem getIndexAndField_tie (intcs : Option (List Nat)) (a : Ast) (hA : Arity a) (n p o : Nat) :
    Generated.getIndexAndField (envOf intcs) (treeOf a (n + 2) (some (p, o))) = fromIF (getIndexAndField intcs a p) := by
  unfold Generated.getIndexAndField
  simp only [tree_instruction]
  cases h1 : isClass (a.opOf p) "Txn"
  case true => obtain ⟨f, hop⟩ := (ofClass _).txn (eq_of_beq h1); rw [getIndexAndField, hop]; rfl
  cases h2 : isClass (a.opOf p) "Gtxn"
  case true => obtain ⟨i, f, hop⟩ := (ofClass _).gtxn (eq_of_beq h2); rw [getIndexAndField, hop]; rfl
  cases h3 : isClass (a.opOf p) "Gtxns"
  case true =>
    obtain ⟨f, hop⟩ := (ofClass _).gtxns (eq_of_beq h3)
    obtain ⟨r, hargs⟩ := hA.args1 (p := p) (by rw [hop]; rfl)
    rw [getIndexAndField, tree_node1 a _ p o hargs, hop, hargs]
    rcases r with _ | ⟨q, o'⟩
    · rfl
    · exact congrArg (fun ix => (true, some ix, some f)) (getIndex_tie intcs a hA n q o')
  case false =>
    have : getIndexAndField intcs a p = none := by
      unfold getIndexAndField
      split
      next f h => exact absurd h (not_isClass h1)
      next i f h => exact absurd h (not_isClass h2)
      next f h => exact absurd h (not_isClass h3)
      next => rfl
    rw [this]; rfl

/-! `fromIdx` encodes the index faithfully: the Python compares the number of the index type, then the value.  (The translator
    writes the enum members as their numbers: 0 / 1 / 2 / 777 are `Generated.IndexType_Self / _Absolute / _Relative / _Unknown`.) -/
theorem idx_unknown (ix : IndexType) : ((fromIdx ix).indexType == 777) = (ix == .unknown) := by cases ix <;> rfl
theorem idx_self (ix : IndexType) : ((fromIdx ix).indexType == 0) = (ix == .self) := by cases ix <;> rfl
theorem idx_absolute (ix : IndexType) (i : Nat) :
    ((fromIdx ix).indexType == 1 && (fromIdx ix).value == (i : Int)) = (ix == .absolute i) := by
  cases ix with
  | absolute j =>
    rw [Bool.eq_iff_iff]
    simp only [fromIdx, Generated.IndexType_Absolute, beq_self_eq_true, Bool.true_and, beq_iff_eq, Int.natCast_inj, IndexType.absolute.injEq]
  | _ => rfl
theorem idx_relative (ix : IndexType) (k : Int) :
    ((fromIdx ix).indexType == 2 && (fromIdx ix).value == k) = (ix == .relative k) := by
  cases ix with
  | relative j =>
    rw [Bool.eq_iff_iff]
    simp only [fromIdx, Generated.IndexType_Relative, beq_self_eq_true, Bool.true_and, beq_iff_eq, IndexType.relative.injEq]
  | _ => rfl

theorem isValueMatchesKey_tie (intcs : Option (List Nat)) (a : Ast) (hA : Arity a) (key : Key) (n : Nat) (r : Ref)
    (fld : Option String) :
    Generated.isValueMatchesKey (envOf intcs) key (treeOf a (n + 2) r) fld = valueMatchesKey intcs a key r fld := by
  rcases r with _ | ⟨p, o⟩
  · rfl
  rw [Generated.isValueMatchesKey, valueMatchesKey, getIndexAndField_tie intcs a hA n p o]
  cases getIndexAndField intcs a p with
  | none => rfl
  | some v =>
    obtain ⟨base, kind⟩ := key
    -- `dsimp` first: a definitional `simp` rewrite inside a condition would leave the old `Decidable` instance
    cases kind <;> dsimp only [fromIF, Option.getD_some, keyIsAtIndex, keyIsAbsolute, keyIsRelative, keyIndBase, keyStr] <;>
      simp only [Option.some_beq_some, Bool.or_self, Bool.or_true, Bool.or_false, Bool.false_eq_true, ↓reduceIte, ↓apply_ite Id.run,
        Id.run_pure, Bool.not_true, Bool.if_false_left, Bool.if_false_right, Bool.and_true, Bool.decide_eq_true, bne, Bool.not_not,
        idx_unknown, idx_self, idx_absolute, idx_relative] <;>
      cases fld <;> rfl

/-- the part of `_get_asserted_groupsizes` / `_get_asserted_groupindices` after the field operand has been found -/
theorem int_branch (intcs : Option (List Nat)) (op : Op) (c : Cmp) (U : NatSet) (hU : U.Nodup) (sw : Bool) :
    (match Option.map (fun x => (x, sw)) (intLit intcs op) with
      | none => (U, U)
      | some (n, _) => (OSet.ofList (assertedIntValues c n U), OSet.diff U (OSet.ofList (assertedIntValues c n U)))) =
    (if (ipOf intcs op).fst = true then
        if ((ipOf intcs op).snd.isNone || !isIntLit (ipOf intcs op).snd) = true then (pure (U, U) : Id (NatSet × NatSet))
        else pure (OSet.ofList (Generated.intAssertedValues c (litOf (ipOf intcs op).snd) U),
              OSet.diff U (OSet.ofList (Generated.intAssertedValues c (litOf (ipOf intcs op).snd) U)))
      else pure (U, U)).run := by
  obtain ⟨v, hv⟩ : ∃ v, intPush intcs op = v := ⟨_, rfl⟩
  simp only [intLit, ipOf, hv]
  rcases v with _ | _ | _ | _
  · rfl
  · rfl
  · simp only [Tie.int_asserted_tie c _ U hU]; rfl
  · rfl

theorem ofList_sizesU : OSet.ofList Generated.sizesU = sizesU := by decide +kernel
theorem ofList_indicesU : OSet.ofList Generated.indicesU = indicesU := by decide +kernel

theorem groupsizes_tie (intcs : Option (List Nat)) (a : Ast) (hA : Arity a) (kind : KeyKind) (n p o : Nat) :
    intSingle intcs a ⟨"GroupSize", kind⟩ p =
      Generated.getAssertedGroupsizes (envOf intcs) (envOf intcs) (treeOf a (n + 1) (some (p, o))) := by
  unfold intSingle Generated.getAssertedGroupsizes
  simp only [tree_instruction, isCmp6_eq, intUniv, ofList_sizesU, beq_self_eq_true, ↓reduceIte]
  rcases hA.cmp_or_not p with ⟨c, r1, r2, hop, hargs⟩ | hc
  · simp only [hop, hargs, cmpOf, beq_self_eq_true, tree_arg, tree_isUnknown, List.getD_cons_zero, List.getD_cons_succ, ↓reduceIte]
    rcases r1 with _ | ⟨p1, o1⟩ <;> rcases r2 with _ | ⟨p2, o2⟩
    case some.some =>
      simp only [Option.isNone_some, Bool.or_self, Bool.false_eq_true, ↓reduceIte, tree_instruction, isGS_eq, isIntPush_tie, Tie.sizesU_tie]
      -- the first operand that reads the field decides; the other one is the constant
      cases a.opOf p1 == Op.global "GroupSize"
      · cases a.opOf p2 == Op.global "GroupSize"
        · rfl
        · exact int_branch intcs (a.opOf p1) c sizesU Tie.int_universes_nodup.1 true
      · exact int_branch intcs (a.opOf p2) c sizesU Tie.int_universes_nodup.1 false
    all_goals rfl
  · simp only [beq_cmp_false hc, Bool.false_eq_true, ↓reduceIte]
    split
    · exact absurd ⟨_, ‹_›⟩ hc
    · rfl

theorem groupindices_tie (intcs : Option (List Nat)) (a : Ast) (hA : Arity a) (base : String) (hb : base ≠ "GroupSize")
    (kind : KeyKind) (n p o : Nat) :
    intSingle intcs a ⟨base, kind⟩ p =
      Generated.getAssertedGroupindices (envOf intcs) (envOf intcs) (treeOf a (n + 1) (some (p, o))) := by
  unfold intSingle Generated.getAssertedGroupindices
  have hb' : (base == "GroupSize") = false := beq_eq_false_iff_ne.mpr hb
  simp only [tree_instruction, isCmp6_eq, intUniv, ofList_indicesU, hb', Bool.false_eq_true, ↓reduceIte]
  rcases hA.cmp_or_not p with ⟨c, r1, r2, hop, hargs⟩ | hc
  · simp only [hop, hargs, cmpOf, beq_self_eq_true, tree_arg, tree_isUnknown, List.getD_cons_zero, List.getD_cons_succ, ↓reduceIte]
    rcases r1 with _ | ⟨p1, o1⟩ <;> rcases r2 with _ | ⟨p2, o2⟩
    case some.some =>
      simp only [Option.isNone_some, Bool.or_self, Bool.false_eq_true, ↓reduceIte, tree_instruction, isGI_eq, isIntPush_tie, Tie.indicesU_tie]
      cases a.opOf p1 == Op.txn "GroupIndex"
      · cases a.opOf p2 == Op.txn "GroupIndex"
        · rfl
        · exact int_branch intcs (a.opOf p1) c indicesU Tie.int_universes_nodup.2 true
      · exact int_branch intcs (a.opOf p2) c indicesU Tie.int_universes_nodup.2 false
    all_goals rfl
  · simp only [beq_cmp_false hc, Bool.false_eq_true, ↓reduceIte]
    split
    · exact absurd ⟨_, ‹_›⟩ hc
    · rfl

theorem mirrored_tie (c : Cmp) : Generated.mirroredComparison (.cmp c) = .cmp c.mirror := by
  cases c <;> rfl

def toG2 (r : FeeValue × FeeValue) : Generated.GFeeValue × Generated.GFeeValue := (Tie.toG r.1, Tie.toG r.2)

/-- the Python's results, read as the model's: after these the matcher's paths and `feeSingle`'s are the same terms -/
theorem fee_final (c : Cmp) (v : FeeValue) : Generated.feeAssertedMax c (Tie.toG v) = toG2 (feeAssertedMax c v) :=
  (Tie.fee_table_tie c v).symm
theorem toG_unknown : ({ isUnknown := true, value := Generated.MAX_UINT64 } : Generated.GFeeValue) = Tie.toG { isUnknown := true } := rfl
theorem toG_value (n : Nat) : ({ isUnknown := false, value := n } : Generated.GFeeValue) = Tie.toG { value := n } := rfl

theorem fee_tie (intcs : Option (List Nat)) (a : Ast) (hA : Arity a) (key : Key) (n p o : Nat) :
    toG2 (feeSingle intcs a key p) =
      Generated.getAssertedFee (envOf intcs) (envOf intcs) key (treeOf a (n + 3) (some (p, o))) := by
  rcases hA.cmp_or_not p with ⟨c, r1, r2, hop, hargs⟩ | hc
  · rw [tree_node2 a _ p o hargs]
    simp only [feeSingle, hop, hargs, intLit]
    unfold Generated.getAssertedFee
    simp only [known_instruction, known_arg, List.getD_cons_zero, List.getD_cons_succ, isValueMatchesKey_tie intcs a hA, isCmp6_eq,
      cmpOf, beq_self_eq_true, ↓reduceIte, mirrored_tie, tree_isUnknown, isIntPush_tie, ipOf, Option.isNone_some, Bool.false_eq_true,
      Option.getD_some, toG_unknown, toG_value, fee_final, ↓apply_ite Id.run, Id.run_pure]
    -- `simp only` unfolds the model's local `m` in the conditions but not in their `Decidable` instances
    beta_reduce
    -- which operands are known, which of them reads the field, and what the other one pushes
    rcases r1 with _ | ⟨p1, o1⟩ <;> rcases r2 with _ | ⟨p2, o2⟩
    · rfl
    · cases valueMatchesKey intcs a key (some (p2, o2)) <;> rfl
    · cases valueMatchesKey intcs a key (some (p1, o1)) <;> rfl
    · simp only [tree_instruction]
      generalize intPush intcs (a.opOf p1) = i1
      generalize intPush intcs (a.opOf p2) = i2
      cases valueMatchesKey intcs a key (some (p1, o1))
      · cases valueMatchesKey intcs a key (some (p2, o2))
        · rfl
        · rcases i1 with _ | _ | _ | _ <;> rfl
      · cases valueMatchesKey intcs a key (some (p2, o2)) <;> rcases i2 with _ | _ | _ | _ <;> rfl
  · rw [Generated.getAssertedFee, if_neg (by rw [tree_instruction, isCmp6_eq, beq_cmp_false hc]; exact Bool.false_ne_true), feeSingle]
    split
    · exact absurd ⟨_, ‹_›⟩ hc
    · rfl

theorem not_eqNeq (c : Cmp) : (c != .eq && c != .neq) = !(c == .eq || c == .neq) := by cases c <;> rfl

theorem addr_tie (intcs : Option (List Nat)) (a : Ast) (hA : Arity a) (key : Key) (n p o : Nat) :
    addrSingle intcs a key p =
      Generated.getAssertedTxnGtxn (envOf intcs) (envOf intcs) key (treeOf a (n + 3) (some (p, o))) := by
  have hU : OSet.ofList [Generated.ANY_ADDRESS] = addrUniv := rfl
  have hS : OSet.ofList [Generated.SOME_ADDRESS] = [SOME_ADDRESS] := rfl
  rcases hA.cmp_or_not p with ⟨c, r1, r2, hop, hargs⟩ | hc
  · rw [tree_node2 a _ p o hargs]
    simp only [addrSingle, hop, hargs]
    unfold Generated.getAssertedTxnGtxn
    simp only [known_instruction, known_arg, List.getD_cons_zero, List.getD_cons_succ, isValueMatchesKey_tie intcs a hA,
      hU, hS, ← Tie.addr_asserted_tie, isEq_eq, isNeq_eq, cmp_beq]
    -- `simp only` unfolds the model's local `m` in the conditions but not in their `Decidable` instances
    beta_reduce
    by_cases hg : (c == .eq || c == .neq) = true
    · simp only [hg, not_eqNeq, Bool.not_true, Bool.false_eq_true, ↓reduceIte]
      -- `==` and `!=`: which operands are known, and which of them reads the field
      rcases r1 with _ | ⟨p1, o1⟩ <;> rcases r2 with _ | ⟨p2, o2⟩
      · rfl
      · cases valueMatchesKey intcs a key (some (p2, o2)) <;> rfl
      · cases valueMatchesKey intcs a key (some (p1, o1)) <;> rfl
      · cases valueMatchesKey intcs a key (some (p1, o1)) <;> cases valueMatchesKey intcs a key (some (p2, o2)) <;> rfl
    · simp only [hg, not_eqNeq, Bool.not_false, ↓reduceIte]; rfl
  · rw [Generated.getAssertedTxnGtxn, if_pos (by rw [tree_instruction, isEq_eq, isNeq_eq, beq_cmp_false hc, beq_cmp_false hc]; rfl), addrSingle]
    split
    · exact absurd ⟨_, ‹_›⟩ hc
    · rfl

/-- a lookup by name agrees with a function that has the table's values at the table's names (`Tie.enum_tables_tie`) and none
    elsewhere; the comparisons are case distinctions on the name looked up, no string is evaluated -/
theorem lookup_named (T : List (Nat × Nat)) (g : IntVal → Option Nat) (s : String) :
    ∀ N : List (String × Nat), (N.all fun (n, l) => g (.named n) == some l) = true →
      ((∀ e ∈ N, ¬ s = e.1) → g (.named s) = none) → lookupEnum T N (some (.named s)) = g (.named s)
  | [], _, hrest => (hrest nofun).symm
  | (t, l) :: N, hall, hrest => by
    rw [List.all_cons, Bool.and_eq_true, beq_iff_eq] at hall
    by_cases h : s = t
    · subst h; rw [lookupEnum, List.find?_cons_of_pos, hall.1]; rfl; exact beq_self_eq_true s
    · rw [← lookup_named T g s N hall.2 fun hN => hrest (List.forall_mem_cons.2 ⟨h, hN⟩), lookupEnum, lookupEnum, List.find?_cons_of_neg]
      exact fun e => h (eq_of_beq e).symm

theorem lookup_type_tie (v : Option IntVal) :
    lookupEnum Generated.typeEnumTable Generated.typeEnumNames v = v.bind typeToType := by
  rcases v with _ | n | s
  · rfl
  · match n with
    | 0 | 1 | 2 | 3 | 4 | 5 | 6 => rfl
    | n + 7 => rfl
  · refine lookup_named _ _ s _ Tie.enum_tables_tie.2.2.2 fun h => ?_
    simp only [Generated.typeEnumNames, List.forall_mem_cons, List.not_mem_nil, false_imp_iff, implies_true, and_true] at h
    obtain ⟨h1, h2, h3, h4, h5, h6⟩ := h
    simp only [typeToType, IntVal.named.injEq, h1, h2, h3, h4, h5, h6, imp_self]

theorem lookup_oncompletion_tie (v : Option IntVal) :
    lookupEnum Generated.oncompletionTable Generated.oncompletionNames v = v.bind oncompletionToType := by
  rcases v with _ | n | s
  · rfl
  · match n with
    | 0 | 1 | 2 | 3 | 4 | 5 => rfl
    | n + 6 => rfl
  · refine lookup_named _ _ s _ Tie.enum_tables_tie.2.2.1 fun h => ?_
    simp only [Generated.oncompletionNames, List.forall_mem_cons, List.not_mem_nil, false_imp_iff, implies_true, and_true] at h
    obtain ⟨h1, h2, h3, h4, h5, h6⟩ := h
    simp only [oncompletionToType, IntVal.named.injEq, h1, h2, h3, h4, h5, h6, imp_self]

theorem isLit0 (v : Option IntVal) : (v == some (.lit 0)) = (isIntLit v && litOf v == 0) := by
  rcases v with _ | _ | _ <;> simp [isIntLit, litOf]

theorem ofList_singleton (t : Nat) : OSet.ofList [t] = [t] := rfl
theorem ite_ite_same {α : Type} (a b : Bool) (x y : α) :
    (if a = true then (if b = true then x else y) else y) = if (a && b) = true then x else y := by cases a <;> cases b <;> rfl

theorem txntypes_tie (intcs : Option (List Nat)) (a : Ast) (hA : Arity a) (key : Key) (n p o : Nat) :
    Generated.getAssertedTransactionTypes (envOf intcs) (envOf intcs) key (treeOf a (n + 3) (some (p, o))) =
      txnTypeSingleE intcs a key p := by
  have hm := isValueMatchesKey_tie intcs a hA key
  unfold Generated.getAssertedTransactionTypes txnTypeSingleE
  rw [hm (n + 1), show valueMatchesKey intcs a key (some (p, o)) (some "ApplicationID") =
    valueMatchesKey intcs a key (some (p, 0)) (some "ApplicationID") from rfl]
  by_cases happ : valueMatchesKey intcs a key (some (p, 0)) (some "ApplicationID") = true
  · rw [if_pos happ, if_pos happ]; rfl
  rw [if_neg happ, if_neg happ]
  rcases hA.cmp_or_not p with ⟨c, r1, r2, hop, hargs⟩ | hc
  · rw [tree_node2 a _ p o hargs, hop, hargs]
    by_cases hg : (c == .eq || c == .neq) = true
    case' pos => rcases r1 with _ | ⟨p1, o1⟩ <;> rcases r2 with _ | ⟨p2, o2⟩
    case pos.some.some =>
      -- exactly one operand must push an integer; the other one is then looked at as the field
      rcases h2 : intPush intcs (a.opOf p1) with _ | v <;> rcases h3 : intPush intcs (a.opOf p2) with _ | v <;>
      simp only [known_instruction, known_arg, List.getD_cons_zero, List.getD_cons_succ, isEq_eq, isNeq_eq, isNot_eq, cmp_beq, cmp_beq_not, hg,
        Bool.false_eq_true, ↓reduceIte, tree_isUnknown, tree_instruction, isIntPush_tie, ipOf, h2, h3, hm, Tie.txnTypeU_tie, Tie.appTypes_tie,
        Tie.typeEnumTypes_tie, lookup_type_tie, lookup_oncompletion_tie, Option.isNone_some, Bool.or_false, not_eqNeq, Option.isSome_none,
        Option.isSome_some, Bool.and_false, Bool.and_true, Bool.and_self, Bool.not_true, Bool.not_false, Bool.or_self, Bool.or_true,
        Option.join_none, Option.join_some, isLit0, Bool.and_self_left, ofList_singleton, Option.getD_some, TT.ApplCreation, beq_self_eq_true, ite_ite_same]
      case none.none | some.some => rfl
      -- in both remaining cases call the field operand `(p1, o1)`; `v` is what the other one pushes
      case' some.none => rename' p1 => p0, p2 => p1, o1 => o0, o2 => o1
      all_goals
        generalize (valueMatchesKey intcs a key (some (p1, o1)) (some "ApplicationID") && v.isSome && (isIntLit v && litOf v == 0)) = bA
        generalize (valueMatchesKey intcs a key (some (p1, o1)) (some "TypeEnum") && v.isSome) = bT
        generalize (valueMatchesKey intcs a key (some (p1, o1)) (some "OnCompletion") && v.isSome) = bO
        generalize v.bind typeToType = tt
        generalize v.bind oncompletionToType = oc
        -- a lookup is only looked at where its test holds
        cases bA <;> (cases bT <;> [skip; cases tt]) <;> (cases bO <;> [skip; cases oc]) <;> rfl
    -- an operand unknown, or neither `==` nor `!=`: nothing is asserted
    all_goals
      simp only [known_instruction, known_arg, List.getD_cons_zero, List.getD_cons_succ, isEq_eq, isNeq_eq, isNot_eq, cmp_beq, cmp_beq_not, hg,
        Bool.false_eq_true, ↓reduceIte, tree_isUnknown, Option.isNone_none, Bool.true_or, Bool.or_true, not_eqNeq, Bool.not_true, Bool.not_false,
        Tie.txnTypeU_tie]
      rfl
  by_cases hn : a.opOf p = .not
  · obtain ⟨r, hargs⟩ := hA.args1 (p := p) (by rw [hn]; rfl)
    rw [tree_node1 a _ p o hargs, hn, hargs]
    simp only [known_instruction, known_arg, List.getD_cons_zero, isNot_eq, beq_self_eq_true, ↓reduceIte, tree_isUnknown, hm,
      Tie.txnTypeU_tie, Tie.appTypes_tie]
    beta_reduce
    rcases r with _ | ⟨q, o'⟩
    · rfl
    · cases valueMatchesKey intcs a key (some (q, o')) (some "ApplicationID") <;> rfl
  · rw [if_neg (by rw [tree_instruction, isNot_eq, beq_eq_false_iff_ne.mpr hn]; exact Bool.false_ne_true),
      if_neg (by rw [tree_instruction, isEq_eq, isNeq_eq, beq_cmp_false hc, beq_cmp_false hc]; exact Bool.false_ne_true)]
    split
    · exact absurd ‹_› hn
    · exact absurd ⟨_, ‹_›⟩ hc
    · rfl

/-- the premise of the tie theorems holds for every stack AST `construct_stack_ast` builds -/
theorem arity_constructAst (ins : List Ins) : Arity (constructAst ins) := by
  intro p
  by_cases hp : p < ins.length
  · rw [OperandValues.argsOf_constructAst ins p hp, OperandValues.opOf_constructAst ins p hp]
    exact OperandValues.argsAt_length ins p
  · rw [OperandValues.opOf_constructAst_of_le ins p (Nat.le_of_not_lt hp),
      OperandValues.argsOf_constructAst_of_le ins p (Nat.le_of_not_lt hp)]
    rfl

end Tealer.TieM
